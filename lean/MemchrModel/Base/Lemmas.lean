/-
Basic facts about `Mem`, loads and pointer arithmetic used by every proof file, every argument
explicit (`Base/Run` has the forms a proof steps with).
-/
import MemchrModel.Base.Monad

namespace Memchr

namespace Mem

@[simp] theorem window_length (m : Mem) (a len : Nat) : (m.window a len).length = len := by
  simp [window]

theorem window_getElem (m : Mem) (a len i : Nat) (h : i < (m.window a len).length) :
    (m.window a len)[i] = m.byteAt (a + i) := by
  simp [window]

theorem window_getElem? (m : Mem) (a len i : Nat) (h : i < len) :
    (m.window a len)[i]? = some (m.byteAt (a + i)) := by
  simp [window, h]

theorem inb_iff (m : Mem) (a len : Nat) :
    m.inb a len = true ↔ m.base ≤ a ∧ a + len ≤ m.base + m.bytes.size := by
  simp [inb]

theorem loadU_ok (m : Mem) (a len : Nat) (c : Ctr) (h1 : m.base ≤ a)
    (h2 : a + len ≤ m.base + m.bytes.size) :
    m.loadU a len c = .ok (m.window a len)
      { c with loads := ⟨m.region, a - m.base, len, false⟩ :: c.loads } := by
  have : m.inb a len = true := (inb_iff m a len).mpr ⟨h1, h2⟩
  simp [loadU, this]

theorem loadA_ok (m : Mem) (a len : Nat) (chk : Bool) (c : Ctr) (h1 : m.base ≤ a)
    (h2 : a + len ≤ m.base + m.bytes.size) (h3 : chk = true → a % len = 0) :
    m.loadA a len chk c = .ok (m.window a len)
      { c with loads := ⟨m.region, a - m.base, len, chk⟩ :: c.loads } := by
  have : m.inb a len = true := (inb_iff m a len).mpr ⟨h1, h2⟩
  cases chk with
  | false => simp [loadA, this]
  | true => simp [loadA, this, h3 rfl]

theorem read_ok (m : Mem) (a : Nat) (c : Ctr) (h1 : m.base ≤ a)
    (h2 : a < m.base + m.bytes.size) :
    m.read a c = .ok (m.byteAt a)
      { c with loads := ⟨m.region, a - m.base, 1, false⟩ :: c.loads } := by
  have : m.inb a 1 = true := (inb_iff m a 1).mpr ⟨h1, by omega⟩
  simp [read, this]

theorem padd_ok (m : Mem) (site : String) (p k : Nat) (h1 : m.base ≤ p)
    (h2 : p + k ≤ m.base + m.bytes.size) : m.padd site p k = pure (p + k) := by
  simp [padd, h1, h2]

theorem psub_ok (m : Mem) (site : String) (p k : Nat) (h1 : m.base + k ≤ p)
    (h2 : p ≤ m.base + m.bytes.size) : m.psub site p k = pure (p - k) := by
  simp [psub, h1, h2]

theorem distance_ok (m : Mem) (site : String) (a b : Nat) (h1 : m.base ≤ b) (h2 : b ≤ a)
    (h3 : a ≤ m.base + m.bytes.size) : m.distance site a b = pure (a - b) := by
  simp [distance, h1, h2, h3]

end Mem

end Memchr
