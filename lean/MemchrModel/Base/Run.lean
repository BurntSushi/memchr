/-
Running the monad `M`: the layer through which total-correctness proofs step through a `do`
block.  The same facts in two presentations:

* rewrite lemmas `X_ok : side conditions → prim args = pure value` (the site string is implicit,
  found by unification), for wrappers of a few lines:
  `rw [csub_ok h, pure_bind', bind_ok (callee_run ..)]`.  The forms with every argument explicit,
  `Mem.padd_ok` .. `Mem.read_ok`, are in `Base/Lemmas`;
* the weakest-precondition rules
  `Holds.X_bind : side conditions → Holds (k value) c Q → Holds (prim args >>= k) c Q`, for loop
  bodies: one `apply` per primitive in program order, `Holds.bind (callee_spec ..)` at a call,
  `Holds.ite` at a branch, `Holds.pure` or `Holds.mono (ih ..)` at the end.  A goal
  `∃ r c', f args c = .ok r c' ∧ Q r c'` is a `Holds` goal by unfolding, so the rules apply to it.

Either presentation has a second form of some lemmas, made for the arithmetic that follows: `X_eq`
and `Holds.X_bind'` name the result of a subtraction by a variable with an additive defining
equation, `dbgAssert_of` and `Holds.dbgAssert_bind'` take the asserted `decide p` as `p`, so that
neither truncated subtraction nor `decide` enters the context `omega` works in.  `budget_trans` is
the induction step of the step counts that the loops carry in budget form.
-/
import MemchrModel.Base.Lemmas
import MemchrModel.Base.Slice

namespace Memchr

variable {α β : Type}

/-! ### rewrite layer -/

theorem bind_ok {x : M α} {f : α → M β} {c c' : Ctr} {a : α}
    (h : x c = .ok a c') : (x >>= f) c = f a c' := by
  rw [M.bind_run, h]

theorem bind_fault {x : M α} {f : α → M β} {c : Ctr} {e : Fault}
    (h : x c = .fault e) : (x >>= f) c = .fault e := by
  rw [M.bind_run, h]

/-- the converse of `bind_ok`, for partial-correctness rules: behind a run of `x >>= f` that
returns there is a run of `x` that returns -/
theorem of_bind_ok {x : M α} {f : α → M β} {c c' : Ctr} {b : β} (h : (x >>= f) c = .ok b c') :
    ∃ a c1, x c = .ok a c1 ∧ f a c1 = .ok b c' := by
  rw [M.bind_run] at h
  cases hx : x c with
  | fault e => rw [hx] at h; cases h
  | ok a c1 => rw [hx] at h; exact ⟨a, c1, rfl, h⟩

theorem pure_bind' (a : α) (f : α → M β) : (pure a >>= f) = f a := rfl

theorem M.bind_assoc {γ : Type} (m : M α) (f : α → M β) (g : β → M γ) :
    (m >>= f) >>= g = m >>= fun a => f a >>= g := by
  funext c
  simp only [M.bind_run]
  cases m c <;> rfl

/-- an early `return e` taken -/
theorem M.ite_pure_run {p : Prop} [Decidable p] (hp : p) (e : α) (t : M α) (c : Ctr) :
    (if p then pure e else t) c = .ok e c := by
  rw [if_pos hp]
  rfl

theorem tick_bind (n : Nat) (f : Unit → M β) (c : Ctr) :
    (tick n >>= f) c = f () { c with steps := c.steps + n } := rfl

theorem dbgAssert_ok {site : String} {b : Bool} (h : b = true) : dbgAssert site b = pure () := by
  subst h; rfl

theorem dbgAssert_of {site : String} {p : Prop} [Decidable p] (h : p) :
    dbgAssert site (decide p) = pure () :=
  dbgAssert_ok (decide_eq_true h)

theorem assert_ok {site : String} {b : Bool} (h : b = true) : assert site b = pure () := by
  subst h; rfl

theorem csub_ok {site : String} {a b : Nat} (h : b ≤ a) : csub site a b = pure (a - b) :=
  csub_of_le site h

theorem csub_eq {site : String} {a b d : Nat} (h : d + b = a) : csub site a b = pure d := by
  subst h
  rw [csub_of_le site (Nat.le_add_left _ _), Nat.add_sub_cancel]

namespace Mem

variable {m : Mem} {site : String}

theorem distance_eq {a b d : Nat} (h : b + d = a) (h1 : m.base ≤ b)
    (h3 : a ≤ m.base + m.bytes.size) : m.distance site a b = pure d := by
  subst h
  rw [Mem.distance_ok m site _ b h1 (Nat.le_add_right _ _) h3, Nat.add_sub_cancel_left]

theorem psub_eq {p k q : Nat} (h : q + k = p) (h1 : m.base ≤ q)
    (h2 : p ≤ m.base + m.bytes.size) : m.psub site p k = pure q := by
  subst h
  rw [Mem.psub_ok m site _ k (Nat.add_le_add_right h1 k) h2, Nat.add_sub_cancel]

end Mem

namespace Slice

variable {s : Slice} {site : String} {i a b : Nat}

theorem get_ok (h : i < s.len) : s.get site i = pure (s.getD i) := by
  rw [Slice.get, if_pos h]

theorem drop_ok (h : a ≤ s.len) : s.drop site a = pure ⟨s.mem, s.off + a, s.len - a⟩ := by
  rw [Slice.drop, if_pos h]

theorem take_ok (h : b ≤ s.len) : s.take site b = pure ⟨s.mem, s.off, b⟩ := by
  rw [Slice.take, if_pos h]

theorem range_ok (h1 : a ≤ b) (h2 : b ≤ s.len) :
    s.range site a b = pure ⟨s.mem, s.off + a, b - a⟩ := by
  simp [Slice.range, h1, h2]

end Slice

/-! ### step budgets

The loops count their steps in budget form: a run from position `i` satisfies
`c'.steps + w i ≤ c.steps + R`, where `w i` is the price of the positions before `i` and `R` that
of the whole scan, so that the induction hypothesis at the next position speaks of the same `R`. -/

/-- a round from `s` to `s2` steps that the move from `a` to `b` pays for, then the rest of the
run within its budget -/
theorem budget_trans {s s2 s' a b R : Nat} (h1 : s2 + a ≤ s + b) (h2 : s' + b ≤ s2 + R) :
    s' + a ≤ s + R := by
  omega

/-- `budget_trans` for a potential that falls: a round from `s` to `s2` steps that the fall from
`w` to `w'` pays for, then the rest of the run -/
theorem budget_down {s s2 s' w w' R : Nat} (h1 : s2 + w' ≤ s + w) (h2 : s' ≤ s2 + w' + R) :
    s' ≤ s + w + R :=
  Nat.le_trans h2 (Nat.add_le_add_right h1 R)

/-! ### weakest-precondition rules -/

theorem Holds.intro {m : M α} {c : Ctr} {Q : α → Ctr → Prop} (a : α) (c' : Ctr)
    (h : m c = .ok a c') (hq : Q a c') : Holds m c Q := ⟨a, c', h, hq⟩

namespace Holds

variable {c : Ctr} {Q : β → Ctr → Prop} {m : Mem} {s : Slice} {site : String}
  {a b k p i len x y : Nat}

theorem pure {a : α} {Q : α → Ctr → Prop} (h : Q a c) : Holds (pure a : M α) c Q :=
  intro a c rfl h

theorem mono {m : M α} {P Q : α → Ctr → Prop} (h : Holds m c P) (hpq : ∀ a c', P a c' → Q a c') :
    Holds m c Q := by
  obtain ⟨a, c', e, p⟩ := h
  exact ⟨a, c', e, hpq a c' p⟩

/-- runs are deterministic: what a theorem `∃ a c', m c = .ok a c' ∧ Q a c'` says holds of the run
in hand -/
theorem of_run {m : M α} {c' : Ctr} {a : α} {Q : α → Ctr → Prop}
    (h : Holds m c Q) (e : m c = .ok a c') : Q a c' := by
  obtain ⟨a', c'', e', q⟩ := h
  rw [e] at e'
  cases e'
  exact q

/-- a step whose run is known: the rule behind `bind` and the rules of the primitives -/
theorem run_bind {m : M α} {f : α → M β} {a : α} {c' : Ctr} (e : m c = .ok a c')
    (h : Holds (f a) c' Q) : Holds (m >>= f) c Q := by
  unfold Holds
  rw [bind_ok e]
  exact h

theorem bind {m : M α} {f : α → M β} {P : α → Ctr → Prop} (hm : Holds m c P)
    (hf : ∀ a c', P a c' → Holds (f a) c' Q) : Holds (m >>= f) c Q := by
  obtain ⟨a, c', e, p⟩ := hm
  exact run_bind e (hf a c' p)

theorem ite {p : Prop} [Decidable p] {t e : M β} (h1 : p → Holds t c Q) (h2 : ¬ p → Holds e c Q) :
    Holds (if p then t else e) c Q := by
  by_cases h : p
  · rw [if_pos h]; exact h1 h
  · rw [if_neg h]; exact h2 h

theorem dite {p : Prop} [Decidable p] {t : p → M β} {e : ¬ p → M β}
    (h1 : ∀ h : p, Holds (t h) c Q) (h2 : ∀ h : ¬ p, Holds (e h) c Q) :
    Holds (if h : p then t h else e h) c Q := by
  by_cases h : p
  · rw [dif_pos h]; exact h1 h
  · rw [dif_neg h]; exact h2 h

theorem pure_bind {a : α} {f : α → M β} (h : Holds (f a) c Q) :
    Holds ((Pure.pure a : M α) >>= f) c Q := h

theorem tick_bind {n : Nat} {f : Unit → M β}
    (h : Holds (f ()) { c with steps := c.steps + n } Q) : Holds (tick n >>= f) c Q := h

theorem dbgAssert_bind {b : Bool} {f : Unit → M β} (hb : b = true)
    (h : Holds (f ()) c Q) : Holds (dbgAssert site b >>= f) c Q := by
  rw [dbgAssert_ok hb]; exact h

theorem dbgAssert_bind' {p : Prop} [Decidable p] {f : Unit → M β} (hp : p)
    (h : Holds (f ()) c Q) : Holds (dbgAssert site (decide p) >>= f) c Q :=
  dbgAssert_bind (decide_eq_true hp) h

theorem dbgAssert_and_bind {p q : Prop} [Decidable p] [Decidable q] {f : Unit → M β} (hp : p)
    (hq : q) (h : Holds (f ()) c Q) : Holds (dbgAssert site (decide p && decide q) >>= f) c Q :=
  dbgAssert_bind (by rw [decide_eq_true hp, decide_eq_true hq]; rfl) h

theorem assert_bind {b : Bool} {f : Unit → M β} (hb : b = true)
    (h : Holds (f ()) c Q) : Holds (assert site b >>= f) c Q := by
  rw [assert_ok hb]; exact h

theorem csub_bind {f : Nat → M β} (hle : y ≤ x)
    (h : Holds (f (x - y)) c Q) : Holds (csub site x y >>= f) c Q := by
  rw [csub_ok hle]; exact h

theorem csub_bind' {f : Nat → M β} (hle : y ≤ x)
    (h : ∀ d, d + y = x → Holds (f d) c Q) : Holds (csub site x y >>= f) c Q :=
  csub_bind hle (h (x - y) (Nat.sub_add_cancel hle))

theorem padd_bind {f : Nat → M β} (h1 : m.base ≤ p)
    (h2 : p + k ≤ m.base + m.bytes.size) (h : Holds (f (p + k)) c Q) :
    Holds (m.padd site p k >>= f) c Q := by
  rw [Mem.padd_ok m site p k h1 h2]; exact h

theorem psub_bind {f : Nat → M β} (h1 : m.base + k ≤ p)
    (h2 : p ≤ m.base + m.bytes.size) (h : Holds (f (p - k)) c Q) :
    Holds (m.psub site p k >>= f) c Q := by
  rw [Mem.psub_ok m site p k h1 h2]; exact h

theorem psub_bind' {f : Nat → M β} (h1 : m.base + k ≤ p)
    (h2 : p ≤ m.base + m.bytes.size) (h : ∀ q, q + k = p → Holds (f q) c Q) :
    Holds (m.psub site p k >>= f) c Q :=
  psub_bind h1 h2 (h (p - k) (Nat.sub_add_cancel (Nat.le_trans (Nat.le_add_left _ _) h1)))

theorem distance_bind' {f : Nat → M β} (h1 : m.base ≤ b)
    (h2 : b ≤ a) (h3 : a ≤ m.base + m.bytes.size) (h : ∀ d, d + b = a → Holds (f d) c Q) :
    Holds (m.distance site a b >>= f) c Q := by
  rw [Mem.distance_ok m site a b h1 h2 h3]; exact h (a - b) (Nat.sub_add_cancel h2)

theorem loadU_bind {f : List UInt8 → M β} (h1 : m.base ≤ a)
    (h2 : a + len ≤ m.base + m.bytes.size)
    (h : Holds (f (m.window a len))
      { c with loads := ⟨m.region, a - m.base, len, false⟩ :: c.loads } Q) :
    Holds (m.loadU a len >>= f) c Q :=
  run_bind (Mem.loadU_ok m a len c h1 h2) h

theorem loadA_bind {chk : Bool} {f : List UInt8 → M β}
    (h1 : m.base ≤ a) (h2 : a + len ≤ m.base + m.bytes.size) (h3 : chk = true → a % len = 0)
    (h : Holds (f (m.window a len))
      { c with loads := ⟨m.region, a - m.base, len, chk⟩ :: c.loads } Q) :
    Holds (m.loadA a len chk >>= f) c Q :=
  run_bind (Mem.loadA_ok m a len chk c h1 h2 h3) h

theorem read_bind {f : UInt8 → M β} (h1 : m.base ≤ a)
    (h2 : a < m.base + m.bytes.size)
    (h : Holds (f (m.byteAt a))
      { c with loads := ⟨m.region, a - m.base, 1, false⟩ :: c.loads } Q) :
    Holds (m.read a >>= f) c Q :=
  run_bind (Mem.read_ok m a c h1 h2) h

theorem get_bind {f : UInt8 → M β} (hi : i < s.len)
    (h : Holds (f (s.getD i)) c Q) : Holds (s.get site i >>= f) c Q := by
  rw [Slice.get_ok hi]; exact h

theorem drop_bind {f : Slice → M β} (ha : a ≤ s.len)
    (h : Holds (f ⟨s.mem, s.off + a, s.len - a⟩) c Q) : Holds (s.drop site a >>= f) c Q := by
  rw [Slice.drop_ok ha]; exact h

/-! the shapes in which the theorems of `Props/` are written -/

theorem val {m : M α} {v : α} {Q : Ctr → Prop} (h : Holds m c (fun r c' => r = v ∧ Q c')) :
    ∃ c', m c = .ok v c' ∧ Q c' := by
  obtain ⟨_, c', e, rfl, q⟩ := h
  exact ⟨c', e, q⟩

/-- the converse: a lemma stated in that shape as the premise of `Holds.bind` -/
theorem of_val {m : M α} {v : α} {Q : Ctr → Prop} (h : ∃ c', m c = .ok v c' ∧ Q c') :
    Holds m c fun r c' => r = v ∧ Q c' := by
  obtain ⟨c', e, q⟩ := h
  exact ⟨v, c', e, rfl, q⟩

/-- `Holds.val` without a claim about the counter -/
theorem run_val {m : M α} {v : α} (h : Holds m c fun r _ => r = v) : ∃ c', m c = .ok v c' :=
  let ⟨_, c', e, hv⟩ := h
  ⟨c', hv ▸ e⟩

theorem pair {γ : Type} {m : M (α × γ)} {Q : α → γ → Ctr → Prop}
    (h : Holds m c (fun r c' => Q r.1 r.2 c')) : ∃ a b c', m c = .ok (a, b) c' ∧ Q a b c' := by
  obtain ⟨⟨a, b⟩, c', e, q⟩ := h
  exact ⟨a, b, c', e, q⟩

end Holds

end Memchr
