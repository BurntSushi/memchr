/-
"The first index in a range with a property": the shape of the answer of the forward candidate
and substring loops (vector packed pair, Rabin-Karp, shift-or) and of the byte and substring
specifications (`Spec.firstIdx_isLeast`, `Spec.leftmost_isLeast`), and its mirror image for reverse
loops and `Spec.lastIdx`, `Spec.rightmost`.  The result predicates that the packed
pair theorems spell out by cases are bridged to it (`PackedPair.findRes'_iff`, `preRes'_iff`).
Relatives with lemmas of their own: the byte loops say the same of addresses with
`Generic.FirstRes` / `Generic.LastRes`; the portable packed pair answers the least candidate
with no range at all (`Fallback.PreRes`, whose `le_of_cand` is `le_of`).
-/
namespace Memchr

/-- `r` is the least `k` in `[lo, hi)` with `P k`; `none` when there is none -/
def IsLeast (P : Nat → Prop) (lo hi : Nat) : Option Nat → Prop
  | some k => lo ≤ k ∧ k < hi ∧ P k ∧ ∀ j, lo ≤ j → j < k → ¬ P j
  | none => ∀ j, lo ≤ j → j < hi → ¬ P j

/-- `r` is the greatest `k` in `[lo, hi)` with `P k`; `none` when there is none -/
def IsGreatest (P : Nat → Prop) (lo hi : Nat) : Option Nat → Prop
  | some k => lo ≤ k ∧ k < hi ∧ P k ∧ ∀ j, k < j → j < hi → ¬ P j
  | none => ∀ j, lo ≤ j → j < hi → ¬ P j

namespace IsLeast

variable {P Q : Nat → Prop} {lo mid hi a k : Nat} {r : Option Nat}

theorem lo_le (h : IsLeast P lo hi (some k)) : lo ≤ k := h.1

theorem lt_hi (h : IsLeast P lo hi (some k)) : k < hi := h.2.1

theorem holds (h : IsLeast P lo hi (some k)) : P k := h.2.2.1

theorem not_before (h : IsLeast P lo hi (some k)) {j : Nat} (h1 : lo ≤ j) (h2 : j < k) : ¬ P j :=
  h.2.2.2 j h1 h2

theorem empty (h : hi ≤ lo) : IsLeast P lo hi none :=
  fun _ h1 h2 => absurd (Nat.lt_of_le_of_lt h1 h2) (Nat.not_lt.mpr h)

theorem here (h : P lo) (hl : lo < hi) : IsLeast P lo hi (some lo) :=
  ⟨Nat.le_refl _, hl, h, fun _ h1 h2 => absurd (Nat.lt_of_le_of_lt h1 h2) (Nat.lt_irrefl _)⟩

theorem append (h1 : IsLeast P lo mid none) (h2 : IsLeast P mid hi r) (hlm : lo ≤ mid) :
    IsLeast P lo hi r := by
  cases r with
  | none =>
    intro j hj1 hj2
    by_cases hjm : j < mid
    · exact h1 j hj1 hjm
    · exact h2 j (Nat.le_of_not_lt hjm) hj2
  | some k =>
    obtain ⟨a1, a2, a3, a4⟩ := h2
    refine ⟨Nat.le_trans hlm a1, a2, a3, fun j hj1 hj2 => ?_⟩
    by_cases hjm : j < mid
    · exact h1 j hj1 hjm
    · exact a4 j (Nat.le_of_not_lt hjm) hj2

theorem skip (h : ¬ P lo) (h2 : IsLeast P (lo + 1) hi r) : IsLeast P lo hi r := by
  refine append (mid := lo + 1) (fun j hj1 hj2 => ?_) h2 (Nat.le_succ _)
  obtain rfl : j = lo := Nat.le_antisymm (Nat.le_of_lt_succ hj2) hj1
  exact h

theorem none_mono {hi' : Nat} (h : IsLeast P lo hi none) (hh : hi' ≤ hi) : IsLeast P lo hi' none :=
  fun j h1 h2 => h j h1 (Nat.lt_of_lt_of_le h2 hh)

theorem mono_hi {hi' : Nat} (h : IsLeast P lo hi (some k)) (hh : hi ≤ hi') :
    IsLeast P lo hi' (some k) :=
  ⟨h.1, Nat.lt_of_lt_of_le h.2.1 hh, h.2.2⟩

/-- the answer of a search relative to `a`, as an absolute index -/
theorem shift (h : IsLeast (fun k => P (a + k)) lo hi r) :
    IsLeast P (a + lo) (a + hi) (r.map (a + ·)) := by
  have key : ∀ j, a + lo ≤ j → ∃ i, j = a + i ∧ lo ≤ i := fun j hj =>
    ⟨j - a, by omega, by omega⟩
  cases r with
  | none =>
    intro j hj1 hj2
    obtain ⟨i, rfl, hi1⟩ := key j hj1
    exact h i hi1 (Nat.lt_of_add_lt_add_left hj2)
  | some k =>
    obtain ⟨a1, a2, a3, a4⟩ := h
    show a + lo ≤ a + k ∧ a + k < a + hi ∧ P (a + k) ∧ ∀ j, a + lo ≤ j → j < a + k → ¬ P j
    refine ⟨Nat.add_le_add_left a1 a, Nat.add_lt_add_left a2 a, a3, fun j hj1 hj2 => ?_⟩
    obtain ⟨i, rfl, hi1⟩ := key j hj1
    exact a4 i hi1 (Nat.lt_of_add_lt_add_left hj2)

theorem congr (hPQ : ∀ j, lo ≤ j → j < hi → (P j ↔ Q j)) (h : IsLeast P lo hi r) :
    IsLeast Q lo hi r := by
  cases r with
  | none => exact fun j h1 h2 hq => h j h1 h2 ((hPQ j h1 h2).mpr hq)
  | some k =>
    obtain ⟨a1, a2, a3, a4⟩ := h
    exact ⟨a1, a2, (hPQ k a1 a2).mp a3,
      fun j h1 h2 hq => a4 j h1 h2 ((hPQ j h1 (Nat.lt_trans h2 a2)).mpr hq)⟩

/-- a chunked search has found nothing below `i` and the chunk `[i, i + B)` has answered `r0`
(relative to `i`): the answer is final if it is a hit, else nothing is found below `i + B` -/
theorem chunk_done {i B : Nat} {r0 : Option Nat} (hno : IsLeast P 0 i none)
    (h : IsLeast (fun k => P (i + k)) 0 B r0) (hh : i + B ≤ hi) :
    match r0 with
    | some k => IsLeast P 0 hi (some (i + k))
    | none => IsLeast P 0 (i + B) none := by
  have h' := hno.append h.shift (Nat.zero_le _)
  cases r0 with
  | some k => exact h'.mono_hi hh
  | none => exact h'

theorem le_of {j : Nat} (h : IsLeast P lo hi r) (hj : P j) (h1 : lo ≤ j) (h2 : j < hi) :
    ∃ k, r = some k ∧ k ≤ j := by
  cases r with
  | none => exact absurd hj (h j h1 h2)
  | some k => exact ⟨k, rfl, Nat.le_of_not_lt fun hlt => h.not_before h1 hlt hj⟩

/-- nothing below `mid`: the search ends (at the answer, or at `hi` without one) at or after
`mid` -/
theorem le_getD (hno : IsLeast P lo mid none) (h : IsLeast P lo hi r) (hmh : mid ≤ hi) :
    mid ≤ r.getD hi := by
  cases r with
  | none => exact hmh
  | some k => exact Nat.le_of_not_lt fun hlt => hno k h.lo_le hlt h.holds

theorem unique {r' : Option Nat} (h : IsLeast P lo hi r) (h' : IsLeast P lo hi r') : r = r' := by
  cases r with
  | none =>
    cases r' with
    | none => rfl
    | some k => exact absurd h'.holds (h k h'.lo_le h'.lt_hi)
  | some k =>
    cases r' with
    | none => exact absurd h.holds (h' k h.lo_le h.lt_hi)
    | some k' =>
      exact congrArg some (Nat.le_antisymm
        (Nat.le_of_not_lt fun hlt => h.not_before h'.lo_le hlt h'.holds)
        (Nat.le_of_not_lt fun hlt => h'.not_before h.lo_le hlt h.holds))

/-- so a function that computes it is characterised by it -/
theorem eq_iff {r' : Option Nat} (h : IsLeast P lo hi r) : r = r' ↔ IsLeast P lo hi r' :=
  ⟨fun e => e ▸ h, h.unique⟩

/-- from `0` on the lower bounds are vacuous: the form in which result predicates are written
out -/
theorem zero_iff : IsLeast P 0 hi r ↔
    match r with
    | some k => k < hi ∧ P k ∧ ∀ j, j < k → ¬ P j
    | none => ∀ j, j < hi → ¬ P j := by
  cases r with
  | none => exact ⟨fun h j hj => h j (Nat.zero_le _) hj, fun h j _ hj => h j hj⟩
  | some k =>
    exact ⟨fun ⟨_, a1, a2, a3⟩ => ⟨a1, a2, fun j hj => a3 j (Nat.zero_le _) hj⟩,
      fun ⟨a1, a2, a3⟩ => ⟨Nat.zero_le _, a1, a2, fun j _ hj => a3 j hj⟩⟩

end IsLeast

namespace IsGreatest

variable {P Q : Nat → Prop} {lo mid hi a k : Nat} {r : Option Nat}

theorem lo_le (h : IsGreatest P lo hi (some k)) : lo ≤ k := h.1

theorem lt_hi (h : IsGreatest P lo hi (some k)) : k < hi := h.2.1

theorem holds (h : IsGreatest P lo hi (some k)) : P k := h.2.2.1

theorem not_after (h : IsGreatest P lo hi (some k)) {j : Nat} (h1 : k < j) (h2 : j < hi) : ¬ P j :=
  h.2.2.2 j h1 h2

theorem empty (h : hi ≤ lo) : IsGreatest P lo hi none :=
  IsLeast.empty h

theorem top (h : P k) (hl : lo ≤ k) : IsGreatest P lo (k + 1) (some k) :=
  ⟨hl, Nat.lt_succ_self _, h, fun _ h1 h2 => absurd (Nat.lt_of_lt_of_le h1 (Nat.le_of_lt_succ h2))
    (Nat.lt_irrefl _)⟩

theorem append (h1 : IsGreatest P lo mid r) (h2 : IsGreatest P mid hi none) (hmh : mid ≤ hi) :
    IsGreatest P lo hi r := by
  cases r with
  | none =>
    intro j hj1 hj2
    by_cases hjm : j < mid
    · exact h1 j hj1 hjm
    · exact h2 j (Nat.le_of_not_lt hjm) hj2
  | some k =>
    obtain ⟨a1, a2, a3, a4⟩ := h1
    refine ⟨a1, Nat.lt_of_lt_of_le a2 hmh, a3, fun j hj1 hj2 => ?_⟩
    by_cases hjm : j < mid
    · exact a4 j hj1 hjm
    · exact h2 j (Nat.le_of_not_lt hjm) hj2

theorem skip (h : ¬ P k) (h2 : IsGreatest P lo k r) : IsGreatest P lo (k + 1) r := by
  refine append h2 (fun j hj1 hj2 => ?_) (Nat.le_succ _)
  obtain rfl : j = k := Nat.le_antisymm (Nat.le_of_lt_succ hj2) hj1
  exact h

theorem congr (hPQ : ∀ j, lo ≤ j → j < hi → (P j ↔ Q j)) (h : IsGreatest P lo hi r) :
    IsGreatest Q lo hi r := by
  cases r with
  | none => exact fun j h1 h2 hq => h j h1 h2 ((hPQ j h1 h2).mpr hq)
  | some k =>
    obtain ⟨a1, a2, a3, a4⟩ := h
    exact ⟨a1, a2, (hPQ k a1 a2).mp a3,
      fun j h1 h2 hq => a4 j h1 h2 ((hPQ j (Nat.le_trans a1 (Nat.le_of_lt h1)) h2).mpr hq)⟩

theorem ge_of {j : Nat} (h : IsGreatest P lo hi r) (hj : P j) (h1 : lo ≤ j) (h2 : j < hi) :
    ∃ k, r = some k ∧ j ≤ k := by
  cases r with
  | none => exact absurd hj (h j h1 h2)
  | some k => exact ⟨k, rfl, Nat.le_of_not_lt fun hlt => h.not_after hlt h2 hj⟩

theorem unique {r' : Option Nat} (h : IsGreatest P lo hi r) (h' : IsGreatest P lo hi r') :
    r = r' := by
  cases r with
  | none =>
    cases r' with
    | none => rfl
    | some k => exact absurd h'.holds (h k h'.lo_le h'.lt_hi)
  | some k =>
    cases r' with
    | none => exact absurd h.holds (h' k h.lo_le h.lt_hi)
    | some k' =>
      exact congrArg some (Nat.le_antisymm
        (Nat.le_of_not_lt fun hlt => h'.not_after hlt h.lt_hi h.holds)
        (Nat.le_of_not_lt fun hlt => h.not_after hlt h'.lt_hi h'.holds))

theorem eq_iff {r' : Option Nat} (h : IsGreatest P lo hi r) : r = r' ↔ IsGreatest P lo hi r' :=
  ⟨fun e => e ▸ h, h.unique⟩

end IsGreatest

end Memchr
