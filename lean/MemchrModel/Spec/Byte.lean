/-
Naive executable specifications for the byte-search family, each with a Prop-level
characterisation so that a theorem `routine = spec` cannot be true merely because the spec
function is wrong.
-/
import MemchrModel.Base.Least

namespace Memchr.Spec

/-- Smallest index `i < l.length` with `p l[i]`. -/
def firstIdx (p : UInt8 → Bool) (l : List UInt8) : Option Nat := l.findIdx? p

/-- Largest index `i < l.length` with `p l[i]`. -/
def lastIdx (p : UInt8 → Bool) : List UInt8 → Option Nat
  | [] => none
  | x :: xs =>
    match lastIdx p xs with
    | some i => some (i + 1)
    | none => if p x then some 0 else none

/-- Number of positions with `p`. -/
def countP (p : UInt8 → Bool) (l : List UInt8) : Nat := l.countP p

/-- The predicate "byte is one of the needles". -/
def isNeedle (ns : List UInt8) (b : UInt8) : Bool := ns.contains b

theorem firstIdx_eq_some_iff {p : UInt8 → Bool} {l : List UInt8} {i : Nat} :
    firstIdx p l = some i ↔
      ∃ h : i < l.length, p l[i] = true ∧ ∀ j (hj : j < i), p (l[j]'(Nat.lt_trans hj h)) = false := by
  simp only [firstIdx, List.findIdx?_eq_some_iff_getElem, Bool.not_eq_true]

theorem firstIdx_eq_none_iff {p : UInt8 → Bool} {l : List UInt8} :
    firstIdx p l = none ↔ ∀ x ∈ l, p x = false := by
  simp only [firstIdx, List.findIdx?_eq_none_iff]

theorem lastIdx_cons_eq_none {p : UInt8 → Bool} {x : UInt8} {xs : List UInt8} :
    lastIdx p (x :: xs) = none ↔ lastIdx p xs = none ∧ p x = false := by
  rw [lastIdx]
  cases lastIdx p xs with
  | some k => simp
  | none => cases p x <;> simp

theorem lastIdx_cons_eq_some_zero {p : UInt8 → Bool} {x : UInt8} {xs : List UInt8} :
    lastIdx p (x :: xs) = some 0 ↔ lastIdx p xs = none ∧ p x = true := by
  rw [lastIdx]
  cases lastIdx p xs with
  | some k => simp
  | none => cases p x <;> simp

theorem lastIdx_cons_eq_some_succ {p : UInt8 → Bool} {x : UInt8} {xs : List UInt8} {i : Nat} :
    lastIdx p (x :: xs) = some (i + 1) ↔ lastIdx p xs = some i := by
  rw [lastIdx]
  cases lastIdx p xs with
  | some k => simp
  | none => cases p x <;> simp

theorem lastIdx_eq_none_iff {p : UInt8 → Bool} {l : List UInt8} :
    lastIdx p l = none ↔ ∀ x ∈ l, p x = false := by
  induction l with
  | nil => exact ⟨fun _ _ h => absurd h List.not_mem_nil, fun _ => rfl⟩
  | cons x xs ih => rw [lastIdx_cons_eq_none, ih, List.forall_mem_cons, and_comm]

theorem lastIdx_eq_some_iff {p : UInt8 → Bool} {l : List UInt8} {i : Nat} :
    lastIdx p l = some i ↔
      ∃ h : i < l.length, p l[i] = true ∧ ∀ j (hj : j < l.length), i < j → p l[j] = false := by
  induction l generalizing i with
  | nil => simp [lastIdx]
  | cons x xs ih =>
    cases i with
    | zero =>
      rw [lastIdx_cons_eq_some_zero, lastIdx_eq_none_iff]
      constructor
      · rintro ⟨hall, hx⟩
        refine ⟨Nat.succ_pos _, hx, fun j hj hlt => ?_⟩
        obtain ⟨j', rfl⟩ := Nat.exists_eq_succ_of_ne_zero (Nat.ne_of_gt hlt)
        exact hall _ (List.getElem_mem _)
      · rintro ⟨_, hx, hall⟩
        refine ⟨fun y hy => ?_, hx⟩
        obtain ⟨j, hj, rfl⟩ := List.getElem_of_mem hy
        exact hall (j + 1) (Nat.succ_lt_succ hj) (Nat.succ_pos j)
    | succ i =>
      rw [lastIdx_cons_eq_some_succ, ih]
      constructor
      · rintro ⟨h, hp, hall⟩
        refine ⟨Nat.succ_lt_succ h, hp, fun j hj hlt => ?_⟩
        obtain ⟨j', rfl⟩ := Nat.exists_eq_succ_of_ne_zero (Nat.ne_of_gt (Nat.zero_lt_of_lt hlt))
        exact hall j' (Nat.lt_of_succ_lt_succ hj) (Nat.lt_of_succ_lt_succ hlt)
      · rintro ⟨h, hp, hall⟩
        exact ⟨Nat.lt_of_succ_lt_succ h, hp, fun j hj hlt =>
          hall (j + 1) (Nat.succ_lt_succ hj) (Nat.succ_lt_succ hlt)⟩

/-! ### the specifications as first / last index with a property

`get` is how the caller reads element `i` of the list (`hay.getD i` for a slice, `hay[i]!` for an
array), so that no bound proof enters the property. -/

theorem firstIdx_isLeast {p : UInt8 → Bool} {l : List UInt8} {get : Nat → UInt8}
    (hget : ∀ i (h : i < l.length), l[i] = get i) :
    IsLeast (fun i => p (get i) = true) 0 l.length (firstIdx p l) := by
  cases hf : firstIdx p l with
  | none =>
    exact fun j _ hj => Bool.eq_false_iff.mp
      (hget j hj ▸ firstIdx_eq_none_iff.mp hf _ (List.getElem_mem hj))
  | some k =>
    obtain ⟨hk, hp, hn⟩ := firstIdx_eq_some_iff.mp hf
    exact ⟨Nat.zero_le _, hk, (hget k hk ▸ hp : p (get k) = true), fun j _ hj =>
      Bool.eq_false_iff.mp (hget j (Nat.lt_trans hj hk) ▸ hn j hj)⟩

theorem lastIdx_isGreatest {p : UInt8 → Bool} {l : List UInt8} {get : Nat → UInt8}
    (hget : ∀ i (h : i < l.length), l[i] = get i) :
    IsGreatest (fun i => p (get i) = true) 0 l.length (lastIdx p l) := by
  cases hf : lastIdx p l with
  | none =>
    exact fun j _ hj => Bool.eq_false_iff.mp
      (hget j hj ▸ lastIdx_eq_none_iff.mp hf _ (List.getElem_mem hj))
  | some k =>
    obtain ⟨hk, hp, hn⟩ := lastIdx_eq_some_iff.mp hf
    exact ⟨Nat.zero_le _, hk, (hget k hk ▸ hp : p (get k) = true), fun j hkj hj =>
      Bool.eq_false_iff.mp (hget j hj ▸ hn j hj hkj)⟩

theorem firstIdx_le_of {p : UInt8 → Bool} {l : List UInt8} {j : Nat} (hj : j < l.length)
    (hp : p l[j] = true) : ∃ k, firstIdx p l = some k ∧ k ≤ j :=
  (firstIdx_isLeast fun i h => (getElem!_pos l i h).symm).le_of
    ((getElem!_pos l j hj).symm ▸ hp) (Nat.zero_le _) hj

/-- the two cases of `firstIdx_isLeast`, with the element test as a Boolean equation -/
theorem firstIdx_pointwise {p : UInt8 → Bool} {l : List UInt8} {get : Nat → UInt8}
    (hget : ∀ i (h : i < l.length), l[i] = get i) :
    (firstIdx p l = none ↔ ∀ i, i < l.length → p (get i) = false) ∧
    ∀ i, firstIdx p l = some i →
      i < l.length ∧ p (get i) = true ∧ ∀ j, j < i → p (get j) = false := by
  have h := firstIdx_isLeast (p := p) hget
  refine ⟨h.eq_iff.trans ⟨fun hn i hi => Bool.eq_false_iff.mpr (hn i (Nat.zero_le _) hi),
    fun hn i _ hi => Bool.eq_false_iff.mp (hn i hi)⟩, fun i e => ?_⟩
  obtain ⟨_, hi, hp, hn⟩ := h.eq_iff.mp e
  exact ⟨hi, hp, fun j hj => Bool.eq_false_iff.mpr (hn j (Nat.zero_le _) hj)⟩

theorem lastIdx_pointwise {p : UInt8 → Bool} {l : List UInt8} {get : Nat → UInt8}
    (hget : ∀ i (h : i < l.length), l[i] = get i) :
    (lastIdx p l = none ↔ ∀ i, i < l.length → p (get i) = false) ∧
    ∀ i, lastIdx p l = some i →
      i < l.length ∧ p (get i) = true ∧ ∀ j, i < j → j < l.length → p (get j) = false := by
  have h := lastIdx_isGreatest (p := p) hget
  refine ⟨h.eq_iff.trans ⟨fun hn i hi => Bool.eq_false_iff.mpr (hn i (Nat.zero_le _) hi),
    fun hn i _ hi => Bool.eq_false_iff.mp (hn i hi)⟩, fun i e => ?_⟩
  obtain ⟨_, hi, hp, hn⟩ := h.eq_iff.mp e
  exact ⟨hi, hp, fun j hij hj => Bool.eq_false_iff.mpr (hn j hij hj)⟩

end Memchr.Spec
