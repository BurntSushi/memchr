/-
Naive executable specifications for substring search, with Prop-level characterisations.
Haystacks and needles are `Array UInt8` (what the driver holds); positions are `Nat`.
-/
import MemchrModel.Base.Least
import MemchrModel.Spec.Byte

namespace Memchr.Spec

/-- `needle` occurs in `hay` at offset `i` (Prop form). -/
def OccAt (hay needle : Array UInt8) (i : Nat) : Prop :=
  i + needle.size ≤ hay.size ∧ ∀ k, k < needle.size → hay[i + k]? = needle[k]?

/-- executable form: compare `needle.size` bytes at offset `i` -/
def occAtLoop (hay needle : Array UInt8) (i : Nat) : Nat → Bool
  | 0 => true
  | k + 1 => hay[i + k]? == needle[k]? && occAtLoop hay needle i k

def occAt (hay needle : Array UInt8) (i : Nat) : Bool :=
  decide (i + needle.size ≤ hay.size) && occAtLoop hay needle i needle.size

/-- smallest occurrence at an offset `>= from`, scanning at most `fuel` offsets -/
def leftmostFrom (hay needle : Array UInt8) (i : Nat) : Nat → Option Nat
  | 0 => none
  | fuel + 1 => if occAt hay needle i then some i else leftmostFrom hay needle (i + 1) fuel

/-- leftmost occurrence (`memmem::find`): `some 0` for the empty needle -/
def leftmost (hay needle : Array UInt8) : Option Nat :=
  leftmostFrom hay needle 0 (hay.size + 1)

/-- greatest occurrence at an offset `< bound` -/
def rightmostBelow (hay needle : Array UInt8) : Nat → Option Nat
  | 0 => none
  | b + 1 => if occAt hay needle b then some b else rightmostBelow hay needle b

/-- rightmost occurrence (`memmem::rfind`): `some hay.size` for the empty needle -/
def rightmost (hay needle : Array UInt8) : Option Nat :=
  rightmostBelow hay needle (hay.size + 1)

/-- the greedy non-overlapping forward match sequence of `find_iter`: repeatedly take the
leftmost occurrence at or after `pos` and resume at its end (`+ max 1 needle.size`). -/
def greedyFwdFrom (hay needle : Array UInt8) (pos : Nat) : Nat → List Nat
  | 0 => []
  | fuel + 1 =>
    match leftmostFrom hay needle pos (hay.size + 1 - pos) with
    | none => []
    | some i => i :: greedyFwdFrom hay needle (i + max 1 needle.size) fuel

def greedyFwd (hay needle : Array UInt8) : List Nat := greedyFwdFrom hay needle 0 (hay.size + 1)

/-- the mirror-image sequence of `rfind_iter`: repeatedly take the rightmost occurrence that
ends at or before `bound` (an occurrence at `i` ends at `i + needle.size`) and continue with
`bound := i` (for the empty needle `bound := i - 1`, stopping after offset 0). -/
def greedyRevFrom (hay needle : Array UInt8) (bound : Nat) : Nat → List Nat
  | 0 => []
  | fuel + 1 =>
    if bound < needle.size then [] else
    match rightmostBelow hay needle (bound - needle.size + 1) with
    | none => []
    | some i =>
      if needle.size = 0 then
        (if i = 0 then [i] else i :: greedyRevFrom hay needle (i - 1) fuel)
      else i :: greedyRevFrom hay needle i fuel

def greedyRev (hay needle : Array UInt8) : List Nat :=
  greedyRevFrom hay needle hay.size (hay.size + 1)

/-! ### characterisations -/

theorem occAtLoop_iff (hay needle : Array UInt8) (i n : Nat) :
    occAtLoop hay needle i n = true ↔ ∀ k, k < n → hay[i + k]? = needle[k]? := by
  induction n with
  | zero => simp [occAtLoop]
  | succ n ih =>
    simp only [occAtLoop, Bool.and_eq_true, beq_iff_eq, ih]
    constructor
    · rintro ⟨h1, h2⟩ k hk
      by_cases hkn : k = n
      · subst hkn; exact h1
      · exact h2 k (Nat.lt_of_le_of_ne (Nat.le_of_lt_succ hk) hkn)
    · intro h
      exact ⟨h n (Nat.lt_succ_self n), fun k hk => h k (Nat.lt_succ_of_lt hk)⟩

theorem occAt_iff (hay needle : Array UInt8) (i : Nat) :
    occAt hay needle i = true ↔ OccAt hay needle i := by
  simp [occAt, OccAt, occAtLoop_iff]

theorem OccAt.le_size {hay needle : Array UInt8} {i : Nat} (h : OccAt hay needle i) :
    i ≤ hay.size :=
  Nat.le_trans (Nat.le_add_right _ _) h.1

theorem leftmostFrom_isLeast (hay needle : Array UInt8) (i fuel : Nat) :
    IsLeast (OccAt hay needle) i (i + fuel) (leftmostFrom hay needle i fuel) := by
  induction fuel generalizing i with
  | zero => exact IsLeast.empty (Nat.le_refl _)
  | succ fuel ih =>
    rw [leftmostFrom]
    by_cases h : occAt hay needle i = true
    · rw [if_pos h]
      exact IsLeast.here ((occAt_iff _ _ _).mp h) (Nat.lt_add_of_pos_right (Nat.succ_pos _))
    · rw [if_neg h]
      exact IsLeast.skip (fun ho => h ((occAt_iff _ _ _).mpr ho))
        (Nat.succ_add_eq_add_succ i fuel ▸ ih (i + 1))

theorem leftmostFrom_eq_some_iff (hay needle : Array UInt8) (i fuel r : Nat) :
    leftmostFrom hay needle i fuel = some r ↔
      i ≤ r ∧ r < i + fuel ∧ OccAt hay needle r ∧ ∀ j, i ≤ j → j < r → ¬ OccAt hay needle j :=
  (leftmostFrom_isLeast hay needle i fuel).eq_iff

theorem leftmostFrom_eq_none_iff (hay needle : Array UInt8) (i fuel : Nat) :
    leftmostFrom hay needle i fuel = none ↔ ∀ j, i ≤ j → j < i + fuel → ¬ OccAt hay needle j :=
  (leftmostFrom_isLeast hay needle i fuel).eq_iff

theorem rightmostBelow_isGreatest (hay needle : Array UInt8) (b : Nat) :
    IsGreatest (OccAt hay needle) 0 b (rightmostBelow hay needle b) := by
  induction b with
  | zero => exact IsGreatest.empty (Nat.le_refl _)
  | succ b ih =>
    rw [rightmostBelow]
    by_cases h : occAt hay needle b = true
    · rw [if_pos h]
      exact IsGreatest.top ((occAt_iff _ _ _).mp h) (Nat.zero_le _)
    · rw [if_neg h]
      exact IsGreatest.skip (fun ho => h ((occAt_iff _ _ _).mpr ho)) ih

theorem rightmostBelow_eq_some_iff (hay needle : Array UInt8) (b r : Nat) :
    rightmostBelow hay needle b = some r ↔
      r < b ∧ OccAt hay needle r ∧ ∀ j, r < j → j < b → ¬ OccAt hay needle j :=
  (rightmostBelow_isGreatest hay needle b).eq_iff.trans
    ⟨fun h => h.2, fun h => ⟨Nat.zero_le _, h⟩⟩

theorem rightmostBelow_eq_none_iff (hay needle : Array UInt8) (b : Nat) :
    rightmostBelow hay needle b = none ↔ ∀ j, j < b → ¬ OccAt hay needle j :=
  (rightmostBelow_isGreatest hay needle b).eq_iff.trans
    ⟨fun h j hj => h j (Nat.zero_le _) hj, fun h j _ hj => h j hj⟩

theorem leftmost_isLeast (hay needle : Array UInt8) :
    IsLeast (OccAt hay needle) 0 (hay.size + 1) (leftmost hay needle) := by
  have h := leftmostFrom_isLeast hay needle 0 (hay.size + 1)
  rwa [Nat.zero_add] at h

theorem rightmost_isGreatest (hay needle : Array UInt8) :
    IsGreatest (OccAt hay needle) 0 (hay.size + 1) (rightmost hay needle) :=
  rightmostBelow_isGreatest hay needle (hay.size + 1)

theorem leftmost_eq_some_iff (hay needle : Array UInt8) (r : Nat) :
    leftmost hay needle = some r ↔ OccAt hay needle r ∧ ∀ j, j < r → ¬ OccAt hay needle j :=
  (leftmost_isLeast hay needle).eq_iff.trans
    ⟨fun ⟨_, _, h, hb⟩ => ⟨h, fun j => hb j (Nat.zero_le j)⟩,
      fun ⟨h, hb⟩ => ⟨Nat.zero_le r, Nat.lt_succ_of_le h.le_size, h, fun j _ => hb j⟩⟩

theorem leftmost_eq_none_iff (hay needle : Array UInt8) :
    leftmost hay needle = none ↔ ∀ j, ¬ OccAt hay needle j :=
  (leftmost_isLeast hay needle).eq_iff.trans
    ⟨fun h j ho => h j (Nat.zero_le j) (Nat.lt_succ_of_le ho.le_size) ho, fun h j _ _ => h j⟩

theorem rightmost_eq_some_iff (hay needle : Array UInt8) (r : Nat) :
    rightmost hay needle = some r ↔ OccAt hay needle r ∧ ∀ j, r < j → ¬ OccAt hay needle j :=
  (rightmost_isGreatest hay needle).eq_iff.trans
    ⟨fun ⟨_, _, h, ha⟩ => ⟨h, fun j hj ho => ha j hj (Nat.lt_succ_of_le ho.le_size) ho⟩,
      fun ⟨h, ha⟩ => ⟨Nat.zero_le r, Nat.lt_succ_of_le h.le_size, h, fun j hj _ => ha j hj⟩⟩

theorem rightmost_eq_none_iff (hay needle : Array UInt8) :
    rightmost hay needle = none ↔ ∀ j, ¬ OccAt hay needle j :=
  (rightmost_isGreatest hay needle).eq_iff.trans
    ⟨fun h j ho => h j (Nat.zero_le j) (Nat.lt_succ_of_le ho.le_size) ho, fun h j _ _ => h j⟩

/-! ### short haystacks, the empty needle -/

theorem OccAt.not_of_short {hay needle : Array UInt8} (h : hay.size < needle.size) (q : Nat) :
    ¬ OccAt hay needle q := fun ho => by have := ho.1; omega

theorem leftmost_of_short {hay needle : Array UInt8} (h : hay.size < needle.size) :
    leftmost hay needle = none :=
  (leftmost_eq_none_iff _ _).mpr (OccAt.not_of_short h)

theorem rightmost_of_short {hay needle : Array UInt8} (h : hay.size < needle.size) :
    rightmost hay needle = none :=
  (rightmost_eq_none_iff _ _).mpr (OccAt.not_of_short h)

theorem OccAt.empty_iff {hay needle : Array UInt8} (h : needle.size = 0) (q : Nat) :
    OccAt hay needle q ↔ q ≤ hay.size := by
  unfold OccAt
  rw [h]
  exact ⟨fun h1 => h1.1, fun h1 => ⟨h1, fun k hk => absurd hk (Nat.not_lt_zero k)⟩⟩

/-- the empty needle matches at offset 0 of every haystack, including the empty one -/
theorem leftmost_empty {hay needle : Array UInt8} (h : needle.size = 0) :
    leftmost hay needle = some 0 :=
  (leftmost_eq_some_iff _ _ _).mpr
    ⟨(OccAt.empty_iff h 0).mpr (Nat.zero_le _), fun j hj => absurd hj (Nat.not_lt_zero j)⟩

/-- the empty needle's last match is at `haystack.len()` -/
theorem rightmost_empty {hay needle : Array UInt8} (h : needle.size = 0) :
    rightmost hay needle = some hay.size :=
  (rightmost_eq_some_iff _ _ _).mpr
    ⟨(OccAt.empty_iff h _).mpr (Nat.le_refl _), fun j hj ho =>
      Nat.not_le_of_gt hj ((OccAt.empty_iff h j).mp ho)⟩

end Memchr.Spec

namespace Memchr

/-- a complete forward search for the needle answers `Spec.leftmost` -/
theorem IsLeast.eq_leftmost {hay needle : Array UInt8} {hi : Nat} {r : Option Nat}
    (h : IsLeast (Spec.OccAt hay needle) 0 hi r) (hall : ∀ j, Spec.OccAt hay needle j → j < hi) :
    r = Spec.leftmost hay needle := by
  symm
  cases r with
  | none =>
    rw [Spec.leftmost_eq_none_iff]
    exact fun j hj => h j (Nat.zero_le _) (hall j hj) hj
  | some k =>
    rw [Spec.leftmost_eq_some_iff]
    exact ⟨h.holds, fun j hj => h.not_before (Nat.zero_le _) hj⟩

/-- a complete reverse search for the needle answers `Spec.rightmost` -/
theorem IsGreatest.eq_rightmost {hay needle : Array UInt8} {hi : Nat} {r : Option Nat}
    (h : IsGreatest (Spec.OccAt hay needle) 0 hi r)
    (hall : ∀ j, Spec.OccAt hay needle j → j < hi) :
    r = Spec.rightmost hay needle := by
  symm
  cases r with
  | none =>
    rw [Spec.rightmost_eq_none_iff]
    exact fun j hj => h j (Nat.zero_le _) (hall j hj) hj
  | some k =>
    rw [Spec.rightmost_eq_some_iff]
    exact ⟨h.holds, fun j hj ho => h.not_after hj (hall j ho) ho⟩

namespace Spec

/-! ### one-byte needles -/

theorem OccAt.singleton_iff (hay : Array UInt8) (b : UInt8) {q : Nat} (hq : q < hay.size) :
    OccAt hay #[b] q ↔ (hay[q]! == b) = true := by
  rw [getElem!_pos hay q hq, beq_iff_eq]
  constructor
  · rintro ⟨_, h2⟩
    have h0 := h2 0 Nat.one_pos
    rw [Nat.add_zero, Array.getElem?_eq_getElem hq] at h0
    exact Option.some.inj h0
  · rintro rfl
    refine ⟨hq, fun k hk => ?_⟩
    obtain rfl : k = 0 := Nat.lt_one_iff.mp hk
    rw [Nat.add_zero, Array.getElem?_eq_getElem hq]
    rfl

/-- substring search for one byte is byte search (`memmem` hands such needles to `memchr`) -/
theorem leftmost_singleton (hay : Array UInt8) (b : UInt8) :
    leftmost hay #[b] = firstIdx (· == b) hay.toList := by
  have h : IsLeast (OccAt hay #[b]) 0 hay.size (firstIdx (· == b) hay.toList) :=
    (firstIdx_isLeast fun i h => (getElem!_pos hay i h).symm).congr fun _ _ hj =>
      (OccAt.singleton_iff hay b hj).symm
  exact (h.eq_leftmost fun _ ho => ho.1).symm

theorem rightmost_singleton (hay : Array UInt8) (b : UInt8) :
    rightmost hay #[b] = lastIdx (· == b) hay.toList := by
  have h : IsGreatest (OccAt hay #[b]) 0 hay.size (lastIdx (· == b) hay.toList) :=
    (lastIdx_isGreatest fun i h => (getElem!_pos hay i h).symm).congr fun _ _ hj =>
      (OccAt.singleton_iff hay b hj).symm
  exact (h.eq_rightmost fun _ ho => ho.1).symm

end Spec

end Memchr
