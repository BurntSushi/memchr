/-
The greedy match sequences `Spec.greedyFwdFrom` / `Spec.greedyRevFrom` (`Spec/Substr.lean`) in
plain terms: what their inner searches mean, that the fuel argument does not matter once it is
large enough, the unfolding equations at the standard fuel `hay.size + 1` ("leftmost occurrence at
or after `pos`, then resume right after its end", and the mirror image), the empty-needle lists
`[pos, .., len]` / `[bound, .., 0]`, length bounds.

Side conditions on fuel are additive (`hay.size + 1 ≤ pos + fuel`), so that no arithmetic goal
below sees the `hay.size + 1 - pos` of the definition.
-/
import MemchrModel.Spec.Substr

namespace Memchr.Spec

/-! ### forward -/

/-- what the inner search of `greedyFwdFrom` means: the least occurrence at or after `pos` -/
theorem leftmostFrom_pos_some_iff (hay x : Array UInt8) (pos r : Nat) :
    leftmostFrom hay x pos (hay.size + 1 - pos) = some r ↔
      pos ≤ r ∧ OccAt hay x r ∧ ∀ j, pos ≤ j → j < r → ¬ OccAt hay x j := by
  rw [leftmostFrom_eq_some_iff]
  constructor
  · rintro ⟨h1, _, h3, h4⟩; exact ⟨h1, h3, h4⟩
  · rintro ⟨h1, h3, h4⟩
    exact ⟨h1, by have := h3.le_size; omega, h3, h4⟩

theorem leftmostFrom_pos_none_iff (hay x : Array UInt8) (pos : Nat) :
    leftmostFrom hay x pos (hay.size + 1 - pos) = none ↔ ∀ j, pos ≤ j → ¬ OccAt hay x j := by
  rw [leftmostFrom_eq_none_iff]
  constructor
  · intro h j hj ho
    exact h j hj (by have := ho.le_size; omega) ho
  · intro h j hj _
    exact h j hj

theorem greedyFwdFrom_none {hay x : Array UInt8} {pos : Nat}
    (h : leftmostFrom hay x pos (hay.size + 1 - pos) = none) (fuel : Nat) :
    greedyFwdFrom hay x pos fuel = [] := by
  cases fuel with
  | zero => rfl
  | succ f => simp only [greedyFwdFrom, h]

theorem greedyFwdFrom_some {hay x : Array UInt8} {pos i : Nat}
    (h : leftmostFrom hay x pos (hay.size + 1 - pos) = some i) (fuel : Nat) :
    greedyFwdFrom hay x pos (fuel + 1) = i :: greedyFwdFrom hay x (i + max 1 x.size) fuel := by
  simp only [greedyFwdFrom, h]

theorem greedyFwdFrom_past {hay x : Array UInt8} {pos : Nat} (h : hay.size < pos) (fuel : Nat) :
    greedyFwdFrom hay x pos fuel = [] := by
  apply greedyFwdFrom_none
  rw [Nat.sub_eq_zero_of_le h]
  rfl

theorem greedyFwdFrom_length_le_fuel (hay x : Array UInt8) : ∀ (fuel pos : Nat),
    (greedyFwdFrom hay x pos fuel).length ≤ fuel := by
  intro fuel
  induction fuel with
  | zero => intro pos; exact Nat.le_refl 0
  | succ f ih =>
    intro pos
    cases hl : leftmostFrom hay x pos (hay.size + 1 - pos) with
    | none => rw [greedyFwdFrom_none hl]; exact Nat.zero_le _
    | some i => rw [greedyFwdFrom_some hl]; exact Nat.succ_le_succ (ih _)

theorem greedyFwdFrom_fuel (hay x : Array UInt8) : ∀ (fuel fuel' pos : Nat),
    hay.size + 1 ≤ pos + fuel → hay.size + 1 ≤ pos + fuel' →
    greedyFwdFrom hay x pos fuel = greedyFwdFrom hay x pos fuel' := by
  intro fuel
  induction fuel with
  | zero =>
    intro fuel' pos h1 _
    have hp : hay.size < pos := h1
    rw [greedyFwdFrom_past hp, greedyFwdFrom_past hp]
  | succ f ih =>
    intro fuel' pos h1 h2
    cases hl : leftmostFrom hay x pos (hay.size + 1 - pos) with
    | none => rw [greedyFwdFrom_none hl, greedyFwdFrom_none hl]
    | some i =>
      obtain ⟨hi, ho, _⟩ := (leftmostFrom_pos_some_iff _ _ _ _).mp hl
      have hle := ho.le_size
      cases fuel' with
      | zero => exact absurd (Nat.le_trans h2 (Nat.le_trans hi hle)) (Nat.not_succ_le_self _)
      | succ f' =>
        have hm : 1 ≤ max 1 x.size := Nat.le_max_left _ _
        rw [greedyFwdFrom_some hl, greedyFwdFrom_some hl]
        generalize max 1 x.size = m at hm ⊢
        rw [ih f' (i + m) (by omega) (by omega)]

/-- the unfolding equation of the forward greedy sequence with the standard fuel `len + 1` on
both sides: the right-hand side is the definition at fuel `len + 2` -/
theorem greedyFwdFrom_unfold (hay x : Array UInt8) (pos : Nat) :
    greedyFwdFrom hay x pos (hay.size + 1) =
      match leftmostFrom hay x pos (hay.size + 1 - pos) with
      | none => []
      | some i => i :: greedyFwdFrom hay x (i + max 1 x.size) (hay.size + 1) :=
  greedyFwdFrom_fuel hay x (hay.size + 1) (hay.size + 1 + 1) pos (Nat.le_add_left _ _)
    (Nat.le_succ_of_le (Nat.le_add_left _ _))

/-- the empty needle: every offset `pos ..= len` exactly once (`m` names `hay.size + 1 - pos`) -/
theorem greedyFwdFrom_empty {hay x : Array UInt8} (hx : x.size = 0) : ∀ (fuel pos m : Nat),
    pos + m = hay.size + 1 → m ≤ fuel →
    greedyFwdFrom hay x pos fuel = (List.range m).map (pos + ·) := by
  intro fuel
  induction fuel with
  | zero =>
    intro pos m _ h2
    cases Nat.le_zero.mp h2
    rfl
  | succ f ih =>
    intro pos m h1 h2
    cases m with
    | zero =>
      have hp : hay.size < pos := Nat.le_of_eq h1.symm
      rw [greedyFwdFrom_past hp]
      rfl
    | succ m' =>
      have hl : leftmostFrom hay x pos (hay.size + 1 - pos) = some pos :=
        (leftmostFrom_pos_some_iff _ _ _ _).mpr ⟨Nat.le_refl _,
          (OccAt.empty_iff hx _).mpr (by omega), fun j a b => absurd a (Nat.not_le_of_lt b)⟩
      rw [greedyFwdFrom_some hl, hx, show pos + max 1 0 = pos + 1 from rfl,
        ih (pos + 1) m' (by omega) (Nat.le_of_succ_le_succ h2), List.range_succ_eq_map,
        List.map_cons, List.map_map]
      exact congrArg _ (List.map_congr_left fun j _ => by
        show pos + 1 + j = pos + (j + 1)
        omega)

/-- the empty needle, forward: every offset `0 ..= len` exactly once, ascending -/
theorem greedyFwd_empty (hay x : Array UInt8) (hx : x.size = 0) :
    greedyFwd hay x = List.range (hay.size + 1) := by
  unfold greedyFwd
  rw [greedyFwdFrom_empty hx (hay.size + 1) 0 (hay.size + 1) (Nat.zero_add _) (Nat.le_refl _)]
  simp

/-- a non-empty needle: the matches from `pos` on do not overlap and fit into `hay[pos..]` -/
theorem greedyFwdFrom_length_mul_le {hay x : Array UInt8} (hx : 0 < x.size) :
    ∀ (fuel pos : Nat), pos ≤ hay.size →
    (greedyFwdFrom hay x pos fuel).length * x.size + pos ≤ hay.size := by
  intro fuel
  induction fuel with
  | zero => intro pos hp; simpa [greedyFwdFrom] using hp
  | succ f ih =>
    intro pos hp
    cases hl : leftmostFrom hay x pos (hay.size + 1 - pos) with
    | none => rw [greedyFwdFrom_none hl]; simpa using hp
    | some i =>
      obtain ⟨hi, ho, _⟩ := (leftmostFrom_pos_some_iff _ _ _ _).mp hl
      have h2 := ih (i + x.size) ho.1
      rw [greedyFwdFrom_some hl, Nat.max_eq_right hx, List.length_cons, Nat.succ_mul]
      omega

theorem greedyFwd_length_le (hay x : Array UInt8) : (greedyFwd hay x).length ≤ hay.size + 1 :=
  greedyFwdFrom_length_le_fuel hay x _ 0

theorem greedyFwd_length_le_div (hay x : Array UInt8) (hx : 0 < x.size) :
    (greedyFwd hay x).length ≤ hay.size / x.size :=
  (Nat.le_div_iff_mul_le hx).mpr (greedyFwdFrom_length_mul_le hx _ 0 (Nat.zero_le _))

/-! ### reverse -/

/-- "starts below `bound - n + 1`" is "ends at or before `bound`" -/
theorem lt_bound_iff {n bound j : Nat} (hb : n ≤ bound) : j < bound - n + 1 ↔ j + n ≤ bound := by
  omega

/-- what the inner search of the reverse greedy sequence means: the greatest occurrence that
ends at or before `bound` -/
theorem rightmostBelow_bound_some_iff (hay x : Array UInt8) (bound r : Nat)
    (hb : x.size ≤ bound) :
    rightmostBelow hay x (bound - x.size + 1) = some r ↔
      r + x.size ≤ bound ∧ OccAt hay x r ∧ ∀ j, r < j → j + x.size ≤ bound → ¬ OccAt hay x j := by
  rw [rightmostBelow_eq_some_iff, lt_bound_iff hb]
  exact and_congr_right fun _ => and_congr_right fun _ => forall_congr' fun j =>
    imp_congr_right fun _ => by rw [lt_bound_iff hb]

theorem rightmostBelow_bound_none_iff (hay x : Array UInt8) (bound : Nat) (hb : x.size ≤ bound) :
    rightmostBelow hay x (bound - x.size + 1) = none ↔
      ∀ j, j + x.size ≤ bound → ¬ OccAt hay x j := by
  rw [rightmostBelow_eq_none_iff]
  exact forall_congr' fun j => by rw [lt_bound_iff hb]

/-- `FindRevIter` tests `pos = i` where `greedyRevFrom` tests `needle.size = 0`: the same thing -/
theorem rightmostBelow_self_iff {hay x : Array UInt8} {p i : Nat} (hp : p ≤ hay.size)
    (hge : x.size ≤ p) (hr : rightmostBelow hay x (p - x.size + 1) = some i) :
    i ≤ p ∧ (p = i ↔ x.size = 0) := by
  obtain ⟨hle, _, h3⟩ := (rightmostBelow_bound_some_iff _ _ _ _ hge).mp hr
  refine ⟨Nat.le_trans (Nat.le_add_right _ _) hle, fun e => by omega, fun hx => ?_⟩
  refine Nat.le_antisymm (Nat.le_of_not_lt fun hlt => ?_) (Nat.le_trans (Nat.le_add_right _ _) hle)
  exact h3 p hlt (by omega) ((OccAt.empty_iff hx _).mpr hp)

theorem greedyRevFrom_succ (hay x : Array UInt8) (bound fuel : Nat) :
    greedyRevFrom hay x bound (fuel + 1) =
      if bound < x.size then [] else
      match rightmostBelow hay x (bound - x.size + 1) with
      | none => []
      | some i =>
        if x.size = 0 then
          (if i = 0 then [i] else i :: greedyRevFrom hay x (i - 1) fuel)
        else i :: greedyRevFrom hay x i fuel := rfl

theorem greedyRevFrom_length_le_fuel (hay x : Array UInt8) : ∀ (fuel bound : Nat),
    (greedyRevFrom hay x bound fuel).length ≤ fuel := by
  intro fuel
  induction fuel with
  | zero => intro bound; exact Nat.le_refl 0
  | succ f ih =>
    intro bound
    rw [greedyRevFrom_succ]
    split
    · exact Nat.zero_le _
    · split
      · exact Nat.zero_le _
      · split
        · split
          · exact Nat.succ_le_succ (Nat.zero_le _)
          · exact Nat.succ_le_succ (ih _)
        · exact Nat.succ_le_succ (ih _)

/-- the bound goes down after a match at `i` that ends at or before it -/
theorem greedyRevFrom_bound_lt {x : Array UInt8} {bound i : Nat} (hi : i + x.size ≤ bound) :
    (x.size = 0 → ¬ i = 0 → i - 1 + 1 ≤ bound) ∧ (¬ x.size = 0 → i + 1 ≤ bound) := by
  omega

theorem greedyRevFrom_fuel (hay x : Array UInt8) : ∀ (fuel fuel' bound : Nat),
    bound + 1 ≤ fuel → bound + 1 ≤ fuel' →
    greedyRevFrom hay x bound fuel = greedyRevFrom hay x bound fuel' := by
  intro fuel
  induction fuel with
  | zero => intro fuel' bound h1 _; exact absurd h1 (Nat.not_succ_le_zero _)
  | succ f ih =>
    intro fuel' bound h1 h2
    cases fuel' with
    | zero => exact absurd h2 (Nat.not_succ_le_zero _)
    | succ f' =>
      have h1 := Nat.le_of_succ_le_succ h1
      have h2 := Nat.le_of_succ_le_succ h2
      rw [greedyRevFrom_succ, greedyRevFrom_succ]
      by_cases hb : bound < x.size
      · rw [if_pos hb, if_pos hb]
      · rw [if_neg hb, if_neg hb]
        cases hr : rightmostBelow hay x (bound - x.size + 1) with
        | none => rfl
        | some i =>
          obtain ⟨hd0, hd1⟩ := greedyRevFrom_bound_lt
            ((rightmostBelow_bound_some_iff _ _ _ _ (Nat.le_of_not_lt hb)).mp hr).1
          dsimp only
          by_cases hx : x.size = 0
          · rw [if_pos hx, if_pos hx]
            by_cases h0 : i = 0
            · rw [if_pos h0, if_pos h0]
            · rw [if_neg h0, if_neg h0,
                ih f' (i - 1) (Nat.le_trans (hd0 hx h0) h1) (Nat.le_trans (hd0 hx h0) h2)]
          · rw [if_neg hx, if_neg hx,
              ih f' i (Nat.le_trans (hd1 hx) h1) (Nat.le_trans (hd1 hx) h2)]

/-- the unfolding equation of the reverse greedy sequence with the standard fuel `len + 1` on
both sides, for every bound inside the haystack: the right-hand side is the definition at fuel
`len + 2` -/
theorem greedyRevFrom_unfold (hay x : Array UInt8) (bound : Nat) (hb : bound ≤ hay.size) :
    greedyRevFrom hay x bound (hay.size + 1) =
      if bound < x.size then [] else
      match rightmostBelow hay x (bound - x.size + 1) with
      | none => []
      | some i =>
        if x.size = 0 then
          (if i = 0 then [i] else i :: greedyRevFrom hay x (i - 1) (hay.size + 1))
        else i :: greedyRevFrom hay x i (hay.size + 1) :=
  greedyRevFrom_fuel hay x (hay.size + 1) (hay.size + 1 + 1) bound (Nat.succ_le_succ hb)
    (Nat.le_succ_of_le (Nat.succ_le_succ hb))

theorem greedyRevFrom_empty (hay x : Array UInt8) (hx : x.size = 0) : ∀ (fuel bound : Nat),
    bound ≤ hay.size → bound + 1 ≤ fuel →
    greedyRevFrom hay x bound fuel = (List.range (bound + 1)).reverse := by
  intro fuel
  induction fuel with
  | zero => intro bound _ h; exact absurd h (Nat.not_succ_le_zero _)
  | succ f ih =>
    intro bound hb hf
    have hr : rightmostBelow hay x (bound - 0 + 1) = some bound :=
      (rightmostBelow_eq_some_iff _ _ _ _).mpr
        ⟨Nat.lt_succ_self _, (OccAt.empty_iff hx _).mpr hb,
          fun j h1 h2 => absurd h1 (Nat.not_lt_of_le (Nat.le_of_lt_succ h2))⟩
    rw [greedyRevFrom_succ, hx, if_neg (Nat.not_lt_zero _), hr]
    simp only [if_true]
    cases bound with
    | zero => rfl
    | succ b =>
      rw [if_neg (Nat.succ_ne_zero b), Nat.add_sub_cancel,
        ih b (Nat.le_of_succ_le hb) (Nat.le_of_succ_le_succ hf), List.range_succ (n := b + 1),
        List.reverse_append]
      rfl

/-- the empty needle, reverse: every offset `len ..= 0` exactly once, descending -/
theorem greedyRev_empty (hay x : Array UInt8) (hx : x.size = 0) :
    greedyRev hay x = (List.range (hay.size + 1)).reverse :=
  greedyRevFrom_empty hay x hx (hay.size + 1) hay.size (Nat.le_refl _) (Nat.le_refl _)

theorem greedyRev_length_le (hay x : Array UInt8) : (greedyRev hay x).length ≤ hay.size + 1 :=
  greedyRevFrom_length_le_fuel hay x _ _

end Memchr.Spec

section AxiomCheck
open Memchr.Spec
#print axioms greedyFwdFrom_unfold
#print axioms greedyFwd_empty
#print axioms greedyRevFrom_unfold
#print axioms greedyRev_empty
end AxiomCheck
