/-
`Two::{find_raw, rfind_raw}` and `Three::{find_raw, rfind_raw}` of `src/arch/all/memchr.rs`
(one model, parametric in the needle bytes): the one-word loops, and the routines put together
from `findWith` / `rfindWith` and `skip_then_bytes` (`Proofs/SwarLemmas.lean`).
-/
import MemchrModel.Proofs.SwarLemmas
namespace Memchr.Swar
open Memchr.Generic

namespace Multi

/-! ### `find_raw` -/

theorem findLoop_spec (ns : Needles) (m : Mem) (lim end_ cur : Nat) (c : Ctr)
    (hlim : lim + USIZE_BYTES = end_) (hb : m.base ≤ cur) (hce : cur ≤ end_)
    (hal : cur % 8 = 0) (he : end_ ≤ m.base + m.bytes.size) :
    Holds (findLoop ns m lim cur) c (Skipped m ns.confirm cur end_ c) := by
  subst hlim
  fun_induction findLoop ns m lim cur generalizing c with
  | case1 cur h ih =>
    have hc8 : cur + 8 ≤ lim + USIZE_BYTES := Nat.add_le_add_right h 8
    apply Holds.dbgAssert_bind (aligned_beq hal)
    apply Holds.tick_bind
    apply Holds.run_bind (readWordA_ok m cur _ hb (Nat.le_trans hc8 he) hal)
    refine Holds.ite (fun hh => ?_) (fun hh => ?_)
    · exact Holds.pure ⟨Nat.le_refl _, hce, NoHit.empty m _ (Nat.le_refl _),
        step_le rfl (Nat.lt_succ_self _)⟩
    · apply Holds.padd_bind hb (Nat.le_trans hc8 he)
      apply (ih _ (Nat.le_trans hb (Nat.le_add_right _ _)) ((Nat.add_mod_right cur 8).trans hal)
        hc8).mono
      rintro cur' c' ⟨g1, g2, g3, g4⟩
      exact ⟨Nat.le_trans (Nat.le_add_right _ _) g1, g2,
        (noHit_of_not_hasNeedle _ m cur hh).union g3 (Nat.le_refl _),
        budget_trans (step_le rfl (Nat.lt_add_of_pos_right (by decide))) g4⟩
  | case2 cur h =>
    exact Holds.pure ⟨Nat.le_refl _, hce, NoHit.empty m _ (Nat.le_refl _),
      Nat.add_le_add_left (Nat.le_succ _) _⟩

theorem findRaw_spec (ns : Needles) (m : Mem) (start end_ : Nat) (c : Ctr)
    (hb : start < end_ → m.base ≤ start ∧ end_ ≤ m.base + m.bytes.size) :
    Holds (findRaw ns m start end_) c (FwdPost 1 m ns.confirm start end_ c) := by
  rw [findRaw_eq]
  apply findWith_spec ns m start end_ _ c hb
  intro len cur c hlen h8 hs he hsc hce hal
  have hs8 : start + USIZE_BYTES ≤ end_ := hlen ▸ Nat.add_le_add_left h8 _
  exact skip_then_bytes m _ USIZE_BYTES _ start cur end_ c hs hsc hs8 he fun lim hlim =>
    findLoop_spec ns m lim end_ cur c hlim (Nat.le_trans hs hsc) hce hal he

/-! ### `rfind_raw` -/

theorem rfindLoop_spec (ns : Needles) (m : Mem) (start cur : Nat) (c : Ctr)
    (hb : m.base ≤ start) (hsc : start ≤ cur) (hal : cur % 8 = 0)
    (he : cur ≤ m.base + m.bytes.size) :
    Holds (rfindLoop ns m start cur) c (SkippedRev m ns.confirm start cur c) := by
  fun_induction rfindLoop ns m start cur generalizing c with
  | case1 cur h ih =>
    -- `cur = q + 8`; the word is at `q`
    obtain ⟨k, hk⟩ := Nat.le.dest h
    obtain ⟨q, rfl, hsq⟩ : ∃ q, cur = q + USIZE_BYTES ∧ start ≤ q :=
      ⟨start + k, by rw [← hk, Nat.add_right_comm], Nat.le_add_right _ _⟩
    have hbq : m.base ≤ q := Nat.le_trans hb hsq
    have halq : q % 8 = 0 := (Nat.add_mod_right q 8).symm.trans hal
    rw [Nat.add_sub_cancel] at ih ⊢
    apply Holds.dbgAssert_bind (aligned_beq hal)
    apply Holds.tick_bind
    rw [Mem.psub_eq rfl hbq he, pure_bind']
    apply Holds.run_bind (readWordA_ok m q _ hbq he halq)
    refine Holds.ite (fun hh => ?_) (fun hh => ?_)
    · exact Holds.pure ⟨hsc, Nat.le_refl _, NoHit.empty m _ (Nat.le_refl _),
        step_le rfl (Nat.lt_succ_self _)⟩
    · rw [Mem.psub_eq rfl hbq he, pure_bind']
      apply (ih _ hsq halq (Nat.le_trans (Nat.le_add_right _ _) he)).mono
      rintro cur' c' ⟨g1, g2, g3, g4⟩
      exact ⟨g1, Nat.le_trans g2 (Nat.le_add_right _ _),
        g3.union (noHit_of_not_hasNeedle _ m q hh) (Nat.le_refl _),
        Nat.le_trans g4 (step_le rfl (Nat.succ_lt_succ (Nat.lt_add_of_pos_right (by decide))))⟩
  | case2 cur h =>
    exact Holds.pure ⟨hsc, Nat.le_refl _, NoHit.empty m _ (Nat.le_refl _),
      Nat.add_le_add_left (Nat.le_succ _) _⟩

theorem rfindRaw_spec (ns : Needles) (m : Mem) (start end_ : Nat) (c : Ctr)
    (hb : start < end_ → m.base ≤ start ∧ end_ ≤ m.base + m.bytes.size) :
    Holds (rfindRaw ns m start end_) c (RevPost 2 m ns.confirm start end_ c) := by
  rw [rfindRaw_eq]
  apply rfindWith_spec ns m start end_ _ c hb
  intro len cur c hlen h8 hs he hsc hce hal
  have hs8 : start + USIZE_BYTES ≤ end_ := hlen ▸ Nat.add_le_add_left h8 _
  have hce' := Nat.le_trans hce he
  exact skip_then_bytes_rev m _ USIZE_BYTES _ start cur c hs (Nat.le_trans hs8 he) hce'
    (rfindLoop_spec ns m start cur c hs hsc hal hce')

end Multi
end Memchr.Swar
