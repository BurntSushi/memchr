/-
`One::{find_raw, rfind_raw, count_raw}` of `src/arch/all/memchr.rs`: the two-word loops, and the
routines put together from `findWith` / `rfindWith` and `skip_then_bytes`
(`Proofs/SwarLemmas.lean`).
-/
import MemchrModel.Proofs.SwarLemmas
namespace Memchr.Swar
open Memchr.Generic

namespace One

theorem LOOP_BYTES_eq : LOOP_BYTES = 16 := rfl

theorem findLoop_spec (n1 : UInt8) (m : Mem) (lim end_ cur : Nat) (c : Ctr)
    (hlim : lim + LOOP_BYTES = end_) (hb : m.base ≤ cur) (hce : cur ≤ end_)
    (hal : cur % 8 = 0) (he : end_ ≤ m.base + m.bytes.size) :
    Holds (findLoop n1 m lim cur) c (Skipped m (needles n1).confirm cur end_ c) := by
  subst hlim
  fun_induction findLoop n1 m lim cur generalizing c with
  | case1 cur h ih =>
    have hc16 : cur + USIZE_BYTES + 8 ≤ lim + LOOP_BYTES := Nat.add_le_add_right h 16
    have hc8 : cur + 8 ≤ lim + LOOP_BYTES := Nat.le_trans (Nat.le_add_right _ _) hc16
    have hb8 : m.base ≤ cur + USIZE_BYTES := Nat.le_trans hb (Nat.le_add_right _ _)
    have hal8 : (cur + USIZE_BYTES) % 8 = 0 := (Nat.add_mod_right cur 8).trans hal
    apply Holds.dbgAssert_bind (aligned_beq hal)
    apply Holds.tick_bind
    apply Holds.run_bind (readWordA_ok m cur _ hb (Nat.le_trans hc8 he) hal)
    apply Holds.padd_bind hb (Nat.le_trans hc8 he)
    apply Holds.run_bind (readWordA_ok m (cur + USIZE_BYTES) _ hb8 (Nat.le_trans hc16 he) hal8)
    refine Holds.ite (fun hh => ?_) (fun hh => ?_)
    · exact Holds.pure ⟨Nat.le_refl _, hce, NoHit.empty m _ (Nat.le_refl _),
        step_le rfl (Nat.lt_succ_self _)⟩
    · apply Holds.padd_bind hb (Nat.le_trans hc16 he)
      rw [Bool.or_eq_true, not_or] at hh
      apply (ih _ (Nat.le_trans hb (Nat.le_add_right _ _))
        ((Nat.add_mod_right (cur + 8) 8).trans hal8) hc16).mono
      rintro cur' c' ⟨g1, g2, g3, g4⟩
      exact ⟨Nat.le_trans (Nat.le_add_right _ _) g1, g2,
        ((noHit_of_not_hasNeedle _ m cur hh.1).union (noHit_of_not_hasNeedle _ m _ hh.2)
          (Nat.le_refl _)).union g3 (Nat.le_refl _),
        budget_trans (step_le rfl (Nat.lt_add_of_pos_right (by decide))) g4⟩
  | case2 cur h =>
    exact Holds.pure ⟨Nat.le_refl _, hce, NoHit.empty m _ (Nat.le_refl _),
      Nat.add_le_add_left (Nat.le_succ _) _⟩

theorem findRaw_spec (n1 : UInt8) (m : Mem) (start end_ : Nat) (c : Ctr)
    (hb : start < end_ → m.base ≤ start ∧ end_ ≤ m.base + m.bytes.size) :
    Holds (findRaw n1 m start end_) c (FwdPost 1 m (needles n1).confirm start end_ c) := by
  rw [findRaw_eq]
  apply findWith_spec _ m start end_ _ c hb
  intro len cur c hlen h8 hs he hsc hce hal
  have hbc : m.base ≤ cur := Nat.le_trans hs hsc
  refine Holds.ite (fun hl => ?_) (fun hl => ?_)
  · exact (fwdByteByByte_spec m _ cur end_ c hbc hce he).mono fun _ _ ⟨hres, hc⟩ =>
      ⟨hres, Nat.le_succ_of_le hc⟩
  · have hsl : start + LOOP_BYTES ≤ end_ :=
      hlen ▸ Nat.add_le_add_left (Nat.le_of_lt (Nat.lt_of_not_le hl)) _
    exact skip_then_bytes m _ LOOP_BYTES _ start cur end_ c hs hsc hsl he fun lim hlim =>
      findLoop_spec n1 m lim end_ cur c hlim hbc hce hal he

/-! ### `rfind_raw` -/

theorem rfindLoop_spec (n1 : UInt8) (m : Mem) (start cur : Nat) (c : Ctr)
    (hb : m.base ≤ start) (hsc : start ≤ cur) (hal : cur % 8 = 0)
    (he : cur ≤ m.base + m.bytes.size) :
    Holds (rfindLoop n1 m start cur) c (SkippedRev m (needles n1).confirm start cur c) := by
  fun_induction rfindLoop n1 m start cur generalizing c with
  | case1 cur h ih =>
    -- `cur = q + 16`; the two words are at `q` and `q + 8`
    obtain ⟨k, hk⟩ := Nat.le.dest h
    obtain ⟨q, rfl, hsq⟩ : ∃ q, cur = q + LOOP_BYTES ∧ start ≤ q :=
      ⟨start + k, by rw [← hk, Nat.add_right_comm], Nat.le_add_right _ _⟩
    have hbq : m.base ≤ q := Nat.le_trans hb hsq
    have hbq8 : m.base ≤ q + 8 := Nat.le_trans hbq (Nat.le_add_right _ _)
    have halq8 : (q + 8) % 8 = 0 := (Nat.add_mod_right (q + 8) 8).symm.trans hal
    have halq : q % 8 = 0 := (Nat.add_mod_right q 8).symm.trans halq8
    have e2 : q + 2 * USIZE_BYTES = q + LOOP_BYTES := rfl
    have e1 : q + 8 + 1 * USIZE_BYTES = q + LOOP_BYTES := rfl
    rw [Nat.add_sub_cancel] at ih ⊢
    apply Holds.dbgAssert_bind (aligned_beq hal)
    apply Holds.tick_bind
    rw [Mem.psub_eq e2 hbq he, pure_bind']
    apply Holds.run_bind
      (readWordA_ok m q _ hbq (Nat.le_trans (Nat.le_add_right _ 8) he) halq)
    rw [Mem.psub_eq e1 hbq8 he, pure_bind']
    apply Holds.run_bind (readWordA_ok m (q + 8) _ hbq8 he halq8)
    refine Holds.ite (fun hh => ?_) (fun hh => ?_)
    · exact Holds.pure ⟨hsc, Nat.le_refl _, NoHit.empty m _ (Nat.le_refl _),
        step_le rfl (Nat.lt_succ_self _)⟩
    · rw [Mem.psub_eq (k := LOOP_BYTES) (p := q + LOOP_BYTES) rfl hbq he, pure_bind']
      rw [Bool.or_eq_true, not_or] at hh
      apply (ih _ hsq halq (Nat.le_trans (Nat.le_add_right _ _) he)).mono
      rintro cur' c' ⟨g1, g2, g3, g4⟩
      exact ⟨g1, Nat.le_trans g2 (Nat.le_add_right _ _),
        (g3.union (noHit_of_not_hasNeedle _ m q hh.1) (Nat.le_refl _)).union
          (noHit_of_not_hasNeedle _ m (q + 8) hh.2) (Nat.le_refl _),
        Nat.le_trans g4 (step_le rfl (Nat.succ_lt_succ (Nat.lt_add_of_pos_right (by decide))))⟩
  | case2 cur h =>
    exact Holds.pure ⟨hsc, Nat.le_refl _, NoHit.empty m _ (Nat.le_refl _),
      Nat.add_le_add_left (Nat.le_succ _) _⟩

theorem rfindRaw_spec (n1 : UInt8) (m : Mem) (start end_ : Nat) (c : Ctr)
    (hb : start < end_ → m.base ≤ start ∧ end_ ≤ m.base + m.bytes.size) :
    Holds (rfindRaw n1 m start end_) c (RevPost 2 m (needles n1).confirm start end_ c) := by
  rw [rfindRaw_eq]
  apply rfindWith_spec _ m start end_ _ c hb
  intro len cur c hlen h8 hs he hsc hce hal
  have hce' := Nat.le_trans hce he
  refine Holds.ite (fun hl => ?_) (fun hl => ?_)
  · exact (revByteByByte_spec m _ start cur c hs hsc hce').mono fun _ _ ⟨hres, hc⟩ =>
      ⟨hres, Nat.le_succ_of_le hc⟩
  · have hsl : start + LOOP_BYTES ≤ end_ :=
      hlen ▸ Nat.add_le_add_left (Nat.le_of_lt (Nat.lt_of_not_le hl)) _
    exact skip_then_bytes_rev m _ LOOP_BYTES _ start cur c hs (Nat.le_trans hsl he) hce'
      (rfindLoop_spec n1 m start cur c hs hsc hal hce')

/-! ### `count_raw` -/

theorem countLoop_spec (n1 : UInt8) (m : Mem) (end_ ptr count : Nat) (c : Ctr)
    (hb : m.base ≤ ptr) (hpe : ptr ≤ end_) (he : end_ ≤ m.base + m.bytes.size) :
    Holds (countLoop n1 m end_ ptr count) c fun r _ => r = count + cnt m (· == n1) ptr end_ := by
  fun_induction countLoop n1 m end_ ptr count generalizing c with
  | case1 ptr count h ih =>
    simp only [dite_eq_ite] at ih
    apply Holds.tick_bind
    apply Holds.read_bind hb (Nat.lt_of_lt_of_le h he)
    apply Holds.padd_bind hb (Nat.le_trans h he)
    apply (ih (m.byteAt ptr) _ (Nat.le_succ_of_le hb) h).mono
    rintro r _ rfl
    rw [cnt_split m _ (Nat.le_succ ptr) h, cnt_one, Nat.add_assoc]
  | case2 ptr count h =>
    obtain rfl := Nat.le_antisymm hpe (Nat.le_of_not_lt h)
    exact Holds.pure (by rw [cnt_self]; rfl)

theorem countRaw_correct (n1 : UInt8) (m : Mem) (start end_ : Nat) (c : Ctr)
    (hb : start < end_ → m.base ≤ start ∧ end_ ≤ m.base + m.bytes.size) :
    ∃ c', countRaw n1 m start end_ c =
      .ok (Spec.countP (· == n1) (m.window start (end_ - start))) c' := by
  apply Holds.run_val
  refine Holds.ite (fun hse => ?_) (fun hse => ?_)
  · exact Holds.pure (by rw [Nat.sub_eq_zero_of_le hse]; rfl)
  · obtain ⟨hs, he⟩ := hb (Nat.lt_of_not_le hse)
    exact (countLoop_spec n1 m end_ start 0 c hs (Nat.le_of_not_le hse) he).mono
      fun r _ hr => hr.trans (Nat.zero_add _)

end One
end Memchr.Swar
