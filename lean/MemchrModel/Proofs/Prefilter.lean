/-
The adaptive prefilter state machine (`PrefilterState`) never faults (after the F1 fix), and
the pre-fix version overflows on a state that a search can reach.
-/
import MemchrModel.Model.Prefilter

namespace Memchr.PrefilterState

/-- after the fix `is_effective` returns normally from every state -/
theorem isEffective_total (s : PrefilterState) (c : Ctr) :
    ∃ b s', s.isEffective c = .ok (b, s') c := by
  -- every branch is a `pure`
  unfold isEffective
  by_cases h1 : s.isInert = true
  · exact ⟨false, s, by rw [if_pos h1]; rfl⟩
  rw [if_neg h1]
  by_cases h2 : s.skipsM1 < MIN_SKIPS
  · exact ⟨true, s, by rw [if_pos h2]; rfl⟩
  rw [if_neg h2]
  split
  · exact ⟨true, s, rfl⟩
  · exact ⟨false, { s with skips := 0 }, rfl⟩

/-- F1: the state after `2^29` prefilter calls whose skipped bytes saturated -/
def f1State : PrefilterState := ⟨(2 ^ 29 + 1 : Nat).toUInt32, 0xFFFFFFFF⟩

theorem minSkipBytes_toNat : MIN_SKIP_BYTES.toNat = 8 := by decide

/-- F1 (the defect): before the fix `is_effective` overflowed in that state -/
theorem f1_before_fix (c : Ctr) :
    f1State.isEffectiveBeforeFix c =
      .fault (.overflow "PrefilterState::is_effective: MIN_SKIP_BYTES * self.skips()") := by
  have h1 : f1State.isInert = false := by decide
  have h2 : ¬ (f1State.skipsM1 < MIN_SKIPS) := by decide
  have h3 : f1State.skipsM1.toNat = 2 ^ 29 := by decide
  unfold isEffectiveBeforeFix
  rw [if_neg (by rw [h1]; exact Bool.false_ne_true), if_neg h2]
  simp only [h3, minSkipBytes_toNat]
  rfl

/-- `u32::saturating_add(1)` below the top is `+ 1`, in terms of the numbers the state counts -/
theorem satAdd_ofNat_one (n : Nat) (h : n + 1 < 2 ^ 32) :
    satAdd n.toUInt32 1 = (n + 1).toUInt32 := by
  have e : n.toUInt32.toNat = n := UInt32.toNat_ofNat_of_lt' (Nat.lt_of_succ_lt h)
  rw [satAdd, if_neg (by rw [e]; exact Nat.not_le.mpr h)]
  apply UInt32.toNat_inj.mp
  rw [UInt32.toNat_add, e, UInt32.toNat_ofNat_of_lt' h]
  exact Nat.mod_eq_of_lt h

/-- `k` prefilter calls that each skipped at least `2^32` bytes (a candidate-free haystack of
4 GiB or more, or any mix that saturates `skipped`) from the initial state -/
def afterCalls : Nat → PrefilterState
  | 0 => new
  | k + 1 => (afterCalls k).update (2 ^ 32)

theorem afterCalls_eq (k : Nat) (hk : 1 ≤ k) (hk2 : k + 1 < 2 ^ 32) :
    afterCalls k = ⟨(k + 1).toUInt32, 0xFFFFFFFF⟩ := by
  obtain ⟨k, rfl⟩ := Nat.exists_eq_add_of_le' hk
  induction k with
  | zero => decide
  | succ k ih =>
    show (afterCalls (k + 1)).update (2 ^ 32) = _
    rw [ih (Nat.le_add_left 1 k) (Nat.lt_of_succ_lt hk2), update, if_pos (Nat.le_refl _)]
    show PrefilterState.mk (satAdd (k + 1 + 1).toUInt32 1) _ = _
    rw [satAdd_ofNat_one _ hk2]

/-- the overflow state is reached by `2^29` such calls from `PrefilterState::new()` -/
theorem f1_reachable : afterCalls (2 ^ 29) = f1State :=
  afterCalls_eq (2 ^ 29) (by decide) (by decide)

theorem skipsM1_toNat (s : PrefilterState) (k : Nat) (hs : s.skips.toNat = k + 1) :
    s.skipsM1.toNat = k := by
  have e2 : (1 : UInt32).toNat = 1 := by decide
  unfold skipsM1 satSub
  rw [if_neg (by rw [UInt32.lt_iff_toNat_lt, hs, e2]; omega),
    UInt32.toNat_sub_of_le _ _ (by rw [UInt32.le_iff_toNat_le, hs, e2]; omega), hs, e2]
  omega

theorem isInert_false (s : PrefilterState) (k : Nat) (hs : s.skips.toNat = k + 1) :
    s.isInert = false := by
  unfold isInert
  apply beq_false_of_ne
  intro h
  rw [h] at hs
  have : (0 : UInt32).toNat = 0 := by decide
  omega

/-- any non-inert state with fewer than `2^29` recorded skips and saturated `skipped` is judged
effective (and left unchanged) by the pre-fix `is_effective` -/
theorem beforeFix_true (s : PrefilterState) (k : Nat) (hs : s.skips.toNat = k + 1)
    (hsk : s.skipped.toNat = 2 ^ 32 - 1) (hk : k < 2 ^ 29) (c : Ctr) :
    s.isEffectiveBeforeFix c = .ok (true, s) c := by
  unfold isEffectiveBeforeFix
  rw [if_neg (by rw [isInert_false s k hs]; exact Bool.false_ne_true)]
  by_cases h2 : s.skipsM1 < MIN_SKIPS
  · rw [if_pos h2]; rfl
  · rw [if_neg h2]
    simp only [skipsM1_toNat s k hs, minSkipBytes_toNat, hsk]
    rw [if_neg (by omega), if_pos (by omega)]
    rfl

/-- ... and until then `is_effective` kept answering `true` (so the prefilter really was
called again): for every `1 ≤ k < 2^29` the pre-fix version returns `true` unchanged. -/
theorem f1_stays_effective (k : Nat) (hk : 1 ≤ k) (hk2 : k < 2 ^ 29) (c : Ctr) :
    (afterCalls k).isEffectiveBeforeFix c = .ok (true, afterCalls k) c := by
  apply beforeFix_true _ k _ _ hk2
  · rw [afterCalls_eq k hk (by omega)]
    exact UInt32.toNat_ofNat_of_lt' (show k + 1 < 2 ^ 32 by omega)
  · rw [afterCalls_eq k hk (by omega)]
    show (0xFFFFFFFF : UInt32).toNat = 2 ^ 32 - 1
    decide

/-- the fixed `is_effective` agrees with the pre-fix one wherever the latter does not overflow -/
theorem isEffective_eq_beforeFix (s : PrefilterState) (c : Ctr)
    (h : MIN_SKIP_BYTES.toNat * s.skipsM1.toNat < 2 ^ 32) :
    s.isEffective c = s.isEffectiveBeforeFix c := by
  unfold isEffective isEffectiveBeforeFix
  by_cases h1 : s.isInert = true
  · rw [if_pos h1, if_pos h1]
  · rw [if_neg h1, if_neg h1]
    by_cases h2 : s.skipsM1 < MIN_SKIPS
    · rw [if_pos h2, if_pos h2]
    · rw [if_neg h2, if_neg h2]
      have hmin : min (MIN_SKIP_BYTES.toNat * s.skipsM1.toNat) (2 ^ 32 - 1)
          = MIN_SKIP_BYTES.toNat * s.skipsM1.toNat := by omega
      have hno : ¬ (MIN_SKIP_BYTES.toNat * s.skipsM1.toNat ≥ 2 ^ 32) := by omega
      simp only [hmin, if_neg hno]

end Memchr.PrefilterState
