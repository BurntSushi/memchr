/-
The substring meta searcher (`Model/Searcher.lean`): C03 / C04 at the `Searcher` level, C11 for
every prefilter strategy `Searcher::new` can build, C09 / C10 at the `Searcher` level, and the step
counts of C13 for all of these: each routine has one lemma that states its value and its steps
(`Prefilter.find_run`, `Searcher.new_run`, `Searcher.find_spec`, `SearcherRev.new_run`,
`SearcherRev.rfind_run`), of which the value theorems are projections.

What it rests on, all as proved theorems: Rabin-Karp (`Proofs/RabinKarp.lean`), the packed-pair
searchers (`Proofs/PackedPair.lean`), pair selection (`Proofs/Pair.lean`), the portable packed-pair
prefilter (`Proofs/PairFallback.lean`), the top-level `memchr` / `memrchr`
(`Proofs/MemchrApi.lean`, `Proofs/CostMemchr.lean`) and Two-Way
(`TwoWay.find_run_of_cert` in `Proofs/CostTwoWayGap.lean`, `TwoWay.rfind_run_of_cert` in
`Proofs/TwoWayRevCert.lean`; read off a built finder: `TwBuilt.find_run`, `TwRevBuilt.rfind_run`).
Nothing is assumed.  The structures `TwoWayFwdOk` / `TwoWayRevOk` / `TwoWayOk` state the value part
of those two Two-Way facts as a proposition, for `C03.find_partial` and the `htw` premises of the
C08 / C16 statements to name; they hold (`twoWayOk`), and no proof uses such a premise.  Likewise
`C03.find` and `C04.rfind` keep a branch hypothesis their proofs do not use: they are the special
cases of `C03.find_all` / `C04.rfind_all`.
-/
import MemchrModel.Model.Searcher
import MemchrModel.Proofs.MemchrApi
import MemchrModel.Proofs.Swar
import MemchrModel.Proofs.CostMemchr
import MemchrModel.Proofs.PackedPair
import MemchrModel.Proofs.PairFallback
import MemchrModel.Proofs.RabinKarp
import MemchrModel.Proofs.Neon
import MemchrModel.Proofs.CostTwoWayGap
import MemchrModel.Proofs.TwoWayRevCert

namespace Memchr.Memmem

open Fallback (scanned)

/-! ### what is used of `memchr`

The crate's top-level `memchr` / `memrchr` and the portable `One::find`, as the searcher calls them
(`topMemchr`, `topMemrchr`, `Prefilter.findSimple`). -/

theorem confirm_one (b : UInt8) : (⟨b, []⟩ : Needles).confirm = fun x => x == b :=
  Swar.One.confirm_eq b

/-- the top-level `memchr` of every configuration, in the form the portable packed-pair prefilter
asks of its `memchr`, with `K = 2` -/
theorem _root_.Memchr.Cost.memchrOk (cfg : Api.Cfg) : Fallback.MemchrOk (topMemchr cfg) 2 := by
  intro b s c hv
  have h := Cost.memchr cfg ⟨b, []⟩ s hv c
  rw [Api.specIdx_fwd, confirm_one] at h
  exact h

/-- the top-level `memrchr`: `scannedRev` = `haystack.len()` - answer, or `haystack.len()` for
`None` -/
theorem topMemrchr_run (cfg : Api.Cfg) (b : UInt8) (hay : Slice) (hv : hay.Valid) (c : Ctr) :
    ∃ c', topMemrchr cfg b hay c = .ok (Spec.lastIdx (· == b) hay.toList) c' ∧
      c'.steps ≤ c.steps + Api.scannedRev (Spec.lastIdx (· == b) hay.toList) hay.len + 2 := by
  have h := Cost.memrchr cfg ⟨b, []⟩ hay hv c
  rw [Api.specIdx_rev, confirm_one] at h
  exact h

/-- `arch::all::memchr::One::new(b).find(haystack)` (the portable SWAR `One`) -/
theorem swarOneFind_run (b : UInt8) (hay : Slice) (hv : hay.Valid) (c : Ctr) :
    ∃ c', Api.searchSliceWithRaw hay (Swar.One.findRaw b hay.mem) c =
        .ok (Spec.firstIdx (· == b) hay.toList) c' ∧
      c'.steps ≤ c.steps + Fallback.scanned (Spec.firstIdx (· == b) hay.toList) hay.len + 2 := by
  have h := Api.sliceFind_fwd_run .swar ⟨b, []⟩ hay hv c
  rw [Api.specIdx_fwd, confirm_one] at h
  exact h

/-! ### C11: what Two-Way needs from a prefilter strategy -/

/-- A prefilter strategy for the needle bytes `x` is sound: on every valid haystack slice it
returns normally, and every occurrence `q` of the needle forces an answer `Some(a)` with
`a <= q` (so `None` means "no occurrence", and the search may resume at `a`). -/
def PreSound (x : Array UInt8) (strat : Slice → M (Option Nat)) : Prop :=
  ∀ (hay : Slice), hay.Valid → ∀ c, ∃ r c', strat hay c = .ok r c' ∧
    ∀ q, Spec.OccAt hay.toArray x q → ∃ a, r = some a ∧ a ≤ q

/-! #### the portable packed-pair prefilter -/

/-- **C11 (+ C13), the portable prefilter** over the dispatching `memchr` of any configuration: it
returns the least candidate, and every occurrence is a candidate.  Four steps per byte
(`Fallback.findPrefilter_run` with `K = 2`) up to the byte `memchr` found for the candidate, which
lies at most 255 bytes after it (the pair offsets are `u8`s): hence `4 * 255 = 1020`. -/
theorem fallback_run (cfg : Api.Cfg) (needle : Slice) (hvn : needle.Valid) (f : Fallback.Finder)
    (hp : f.pair.ValidFor needle) (hb1 : f.byte1 = needle.getD f.pair.index1.toNat)
    (hb2 : f.byte2 = needle.getD f.pair.index2.toNat) (hay : Slice) (hvh : hay.Valid) (c : Ctr) :
    ∃ r c', Fallback.findPrefilter (topMemchr cfg) f hay c = .ok r c' ∧
      (∀ q, Spec.OccAt hay.toArray needle.toArray q → ∃ a, r = some a ∧ a ≤ q) ∧
      (∀ x, r = some x → x < hay.len) ∧
      c'.steps ≤ c.steps + (4 * scanned r hay.len + 1020) := by
  obtain ⟨r, c', e, hres, hc⟩ := Fallback.findPrefilter_run (Cost.memchrOk cfg) f hay hvh c
  refine ⟨r, c', e, fun q hq => ?_, ?_, Nat.le_trans hc (Nat.add_le_add_left ?_ _)⟩
  · have hcand := Fallback.cand_of_occAt hvn hvh hp hq
    rw [← hb1, ← hb2] at hcand
    exact hres.le_of_cand hcand
  · rintro x rfl
    exact Nat.lt_of_le_of_lt (Nat.le_add_right _ _) hres.1.1
  · have := f.pair.index1.toNat_lt
    cases r with
    | none => simp only [Fallback.runCost, scanned]; omega
    | some a => simp only [Fallback.runCost, scanned]; omega

/-! #### `find_simple` -/

/-- `find_simple` moves the answer back by `off`: the bytes looked at exceed the candidate by at
most `off` -/
theorem scanned_map_sub (a : Option Nat) (len off : Nat) :
    scanned a len ≤ scanned (a.map (· - off)) len + off := by
  cases a with
  | none => exact Nat.le_add_right _ _
  | some i => simp only [scanned, Option.map]; omega

/-- **C11 (+ C13), short-haystack path.** `find_simple` for a prefilter whose `rarest_byte` is the
needle's byte at `rarest_offset`: the first position of that byte minus its needle offset
(saturating) is at most every occurrence start.  One step per byte and two more for the SWAR
search, which looks at most `rarest_offset <= 255` bytes past the candidate. -/
theorem findSimple_run (needle : Slice) (hvn : needle.Valid) (p : Prefilter)
    (hoff : p.rarestOffset.toNat < needle.len)
    (hbyte : p.rarestByte = needle.getD p.rarestOffset.toNat) (hay : Slice) (hvh : hay.Valid)
    (c : Ctr) :
    ∃ r c', p.findSimple hay c = .ok r c' ∧
      (∀ q, Spec.OccAt hay.toArray needle.toArray q → ∃ a, r = some a ∧ a ≤ q) ∧
      (∀ x, r = some x → x < hay.len) ∧
      c'.steps ≤ c.steps + (scanned r hay.len + 257) := by
  obtain ⟨c', h, hs⟩ := swarOneFind_run p.rarestByte hay hvh c
  refine ⟨_, c', bind_ok h, fun q hq => ?_, fun x hx => ?_, ?_⟩
  · obtain ⟨hq1, hq2⟩ := (Slice.occAt_iff_getD hvh hvn q).mp hq
    have hj : q + p.rarestOffset.toNat < hay.toList.length :=
      Slice.toList_length hay ▸ Nat.lt_of_lt_of_le (Nat.add_lt_add_left hoff q) hq1
    obtain ⟨k, hk, hle⟩ := Spec.firstIdx_le_of (p := (· == p.rarestByte)) hj
      (by rw [Slice.toList_getElem, hq2 _ hoff, hbyte]; exact beq_self_eq_true _)
    exact ⟨k - p.rarestOffset.toNat, by rw [hk]; rfl, Nat.sub_le_of_le_add hle⟩
  · obtain ⟨i, hi, rfl⟩ := Option.map_eq_some_iff.mp hx
    exact Nat.lt_of_le_of_lt (Nat.sub_le _ _) ((Slice.firstIdx_pointwise _ hay).2 i hi).1
  · have := scanned_map_sub (Spec.firstIdx (· == p.rarestByte) hay.toList) hay.len
      p.rarestOffset.toNat
    have := p.rarestOffset.toNat_lt
    omega

/-! ### the per-ISA packed-pair wrappers -/

/-- a wrapper finder built by `with_pair(n, pair)` from a pair valid for `n` -/
def VecFinder.GoodFor (n : Slice) (vf : VecFinder) : Prop :=
  vf.pair.ValidFor n ∧
  match vf with
  | .avx2 p s a =>
    s = PackedPair.mkFinder Sensible.sse2 n p.index1.toNat p.index2.toNat ∧
    a = PackedPair.mkFinder Sensible.avx2 n p.index1.toNat p.index2.toNat
  | .sse2 p f => f = PackedPair.mkFinder Sensible.sse2 n p.index1.toNat p.index2.toNat
  | .neon p f => f = PackedPair.mkFinder Neon.impl n p.index1.toNat p.index2.toNat
  | .simd128 p f => f = PackedPair.mkFinder Sensible.simd128 n p.index1.toNat p.index2.toNat

theorem VecFinder.GoodFor.congr {n n0 : Slice} (hb : n.toList = n0.toList) {vf : VecFinder}
    (h : vf.GoodFor n0) : vf.GoodFor n := by
  obtain ⟨hp, hm⟩ := h
  have e := fun V => (PackedPair.mkFinder_congr V hb hp.lt1 hp.lt2).symm
  refine ⟨hp.congr (Slice.same_bytes hb).1, ?_⟩
  cases vf with
  | avx2 p s a => exact ⟨hm.1.trans (e _), hm.2.trans (e _)⟩
  | sse2 p f => exact hm.trans (e _)
  | neon p f => exact hm.trans (e _)
  | simd128 p f => exact hm.trans (e _)

theorem sse2_bytes : Sensible.sse2.bytes = 16 := rfl
theorem avx2_bytes : Sensible.avx2.bytes = 32 := rfl

/-- On a haystack of at least `min_haystack_len()` bytes a good wrapper runs the generic finder
`mkFinder V n ..` of one lawful `V`, and the haystack is long enough for that finder: `avx2`
routes haystacks below its AVX2 finder's minimum to its SSE2 finder. -/
theorem VecFinder.GoodFor.runs {n : Slice} {vf : VecFinder} (hg : vf.GoodFor n) {hay : Slice}
    (hlen : vf.minHaystackLen ≤ hay.len) :
    ∃ (V : VecImpl) (_ : Lawful V) (f : PackedPair.Finder),
      f = PackedPair.mkFinder V n vf.pair.index1.toNat vf.pair.index2.toNat ∧
      f.minHaystackLen ≤ hay.len ∧ vf.find hay n = PackedPair.find V f hay n ∧
      vf.findPrefilter hay = PackedPair.findPrefilter V f hay := by
  obtain ⟨-, hm⟩ := hg
  cases vf with
  | avx2 p s a =>
    obtain ⟨rfl, rfl⟩ := hm
    by_cases h : hay.len < (PackedPair.mkFinder Sensible.avx2 n p.index1.toNat
        p.index2.toNat).minHaystackLen
    · exact ⟨_, Sensible.lawful_sse2, _, rfl, hlen, if_pos h, if_pos h⟩
    · exact ⟨_, Sensible.lawful_avx2, _, rfl, Nat.le_of_not_lt h, if_neg h, if_neg h⟩
  | sse2 p f => exact ⟨_, Sensible.lawful_sse2, _, hm, hlen, rfl, rfl⟩
  | neon p f => exact ⟨_, Neon.lawful, _, hm, hlen, rfl, rfl⟩
  | simd128 p f => exact ⟨_, Sensible.lawful_simd128, _, hm, hlen, rfl, rfl⟩

theorem VecFinder.GoodFor.minHaystackLen_le {n : Slice} {vf : VecFinder} (hg : vf.GoodFor n) :
    vf.minHaystackLen ≤ n.len + 32 := by
  obtain ⟨hp, hm⟩ := hg
  cases vf with
  | avx2 p s a => exact hm.1 ▸ PackedPair.mkFinder_minHaystackLen_le Sensible.lawful_sse2 hp.lt1 hp.lt2
  | sse2 p f => exact hm ▸ PackedPair.mkFinder_minHaystackLen_le Sensible.lawful_sse2 hp.lt1 hp.lt2
  | neon p f => exact hm ▸ PackedPair.mkFinder_minHaystackLen_le Neon.lawful hp.lt1 hp.lt2
  | simd128 p f => exact hm ▸ PackedPair.mkFinder_minHaystackLen_le Sensible.lawful_simd128 hp.lt1 hp.lt2

/-- **C12 (+ C13) for the wrappers.** `find` on a haystack of at least `min_haystack_len()` bytes
returns the leftmost occurrence (for `avx2` this covers the routing to its SSE2 finder).  Steps:
one chunk of the widest vector type, `1 + 32 * (needle.len / 4 + 3)`, per byte up to the answer and
three more (`PackedPair.runCost_le_scanned`). -/
theorem VecFinder.find_run {n : Slice} {vf : VecFinder} (hg : vf.GoodFor n) (hay : Slice)
    (hh : hay.Valid) (hn : n.Valid) (hlen : vf.minHaystackLen ≤ hay.len) (c : Ctr) :
    ∃ c', vf.find hay n c = .ok (Spec.leftmost hay.toArray n.toArray) c' ∧
      c'.steps ≤ c.steps + (1 + 32 * PackedPair.candCost n) *
        (Fallback.scanned (Spec.leftmost hay.toArray n.toArray) hay.len + 3) := by
  obtain ⟨V, L, f, rfl, hl, e, -⟩ := hg.runs hlen
  have hp := hg.1
  obtain ⟨c', h, -, hs⟩ := PackedPair.find_leftmost L _ (PackedPair.mkFinder_ok n _ _ hp.toNat_ne)
    hay n hh hn hp.lt1 hp.lt2 rfl rfl (Nat.le_refl _) hl (Nat.le_trans (Nat.le_max_left _ _) hl) c
  exact ⟨c', e ▸ h, Nat.le_trans hs (Nat.add_le_add_left
    (PackedPair.runCost_le_scanned _ hay n (PackedPair.chunkCost_le L n) hl) _)⟩

/-- **C11 (+ C13) for the wrappers**: one step per chunk (`PackedPair.preCost'_le`). -/
theorem VecFinder.findPrefilter_spec {n : Slice} {vf : VecFinder} (hg : vf.GoodFor n)
    (hay : Slice) (hh : hay.Valid) (hn : n.Valid) (hlen : vf.minHaystackLen ≤ hay.len) (c : Ctr) :
    ∃ r c', vf.findPrefilter hay c = .ok r c' ∧
      (∀ q, Spec.OccAt hay.toArray n.toArray q → ∃ a, r = some a ∧ a ≤ q) ∧
      (∀ x, r = some x → x < hay.len) ∧
      c'.steps ≤ c.steps + (Fallback.scanned r hay.len + 2) := by
  obtain ⟨V, L, f, rfl, hl, -, e⟩ := hg.runs hlen
  have hp := hg.1
  obtain ⟨r, c', h, hx, h2, _, hc⟩ := PackedPair.findPrefilter_sound_mk L hay n hh hn _ _
    hp.toNat_ne hp.lt1 hp.lt2 hl c
  exact ⟨r, c', e ▸ h, h2, fun x hr => Nat.lt_of_le_of_lt (Nat.le_add_right _ _) (hx x hr).1,
    Nat.le_trans hc (Nat.add_le_add_left (PackedPair.preCost'_le ..) _)⟩

/-! ### C11: every prefilter strategy `Searcher::new` builds is sound -/

/-- a prefilter strategy as `Prefilter::fallback` / `Prefilter::<isa>` build it for the needle
`n` -/
def Prefilter.GoodFor (n : Slice) (p : Prefilter) : Prop :=
  p.rarestOffset.toNat < n.len ∧ p.rarestByte = n.getD p.rarestOffset.toNat ∧
  match p.kind with
  | .fallback f =>
    f.pair.ValidFor n ∧ f.byte1 = n.getD f.pair.index1.toNat ∧ f.byte2 = n.getD f.pair.index2.toNat
  | .vec vf => vf.GoodFor n

theorem Prefilter.GoodFor.congr {n n0 : Slice} (hb : n.toList = n0.toList) {p : Prefilter}
    (h : p.GoodFor n0) : p.GoodFor n := by
  obtain ⟨h1, h2, h3⟩ := h
  refine ⟨(Slice.same_bytes hb).1 ▸ h1, by rw [h2, Slice.getD_of_toList_eq hb h1], ?_⟩
  obtain ⟨kind, rb, ro⟩ := p
  cases kind with
  | fallback f =>
    obtain ⟨a, b, c⟩ := h3
    exact ⟨a.congr (Slice.same_bytes hb).1, by rw [b, Slice.getD_of_toList_eq hb a.lt1],
      by rw [c, Slice.getD_of_toList_eq hb a.lt2]⟩
  | vec vf => exact VecFinder.GoodFor.congr hb h3

/-- **C11 (+ C13).** Every prefilter strategy built by `Searcher::new`: the portable packed-pair
prefilter with the dispatching `memchr`, a vector `find_prefilter` when the haystack has at least
`min_haystack_len()` bytes, `find_simple` below.  Each is sound in the sense Two-Way needs
(`PreSound`) and keeps its candidate inside the haystack; `scanned` = candidate + 1, or the
haystack length when there is none.  The vector strategies cost one step per byte and a constant;
the common bound is that of the portable one. -/
theorem Prefilter.find_run (cfg : Api.Cfg) {n : Slice} (hn : n.Valid) {p : Prefilter}
    (hg : p.GoodFor n) (hay : Slice) (hh : hay.Valid) (c : Ctr) :
    ∃ r c', p.find cfg hay c = .ok r c' ∧
      (∀ q, Spec.OccAt hay.toArray n.toArray q → ∃ a, r = some a ∧ a ≤ q) ∧
      (∀ x, r = some x → x < hay.len) ∧
      c'.steps ≤ c.steps + (4 * scanned r hay.len + 1020) := by
  obtain ⟨h1, h2, h3⟩ := hg
  obtain ⟨kind, rb, ro⟩ := p
  cases kind with
  | fallback f => exact fallback_run cfg n hn f h3.1 h3.2.1 h3.2.2 hay hh c
  | vec vf =>
    refine Holds.ite (fun _ => ?_) fun hlen => ?_
    · exact Holds.mono (findSimple_run n hn _ h1 h2 hay hh c) fun r c' ⟨hs, hx, hc⟩ =>
        ⟨hs, hx, Nat.le_trans hc (by omega)⟩
    · exact Holds.mono (VecFinder.findPrefilter_spec h3 hay hh hn (Nat.le_of_not_lt hlen) c)
        fun r c' ⟨hs, hx, hc⟩ => ⟨hs, hx, Nat.le_trans hc (by omega)⟩

/-- **C11**: the value part of `Prefilter.find_run` -/
theorem Prefilter.find_sound (cfg : Api.Cfg) {n : Slice} (hn : n.Valid) {p : Prefilter}
    (hg : p.GoodFor n) : PreSound n.toArray (p.find cfg) := fun hay hh c =>
  let ⟨r, c', e, hs, _⟩ := Prefilter.find_run cfg hn hg hay hh c
  ⟨r, c', e, hs⟩

/-- the steps and range part of `Prefilter.find_run`, as Two-Way asks for it -/
theorem Prefilter.find_stratCost (cfg : Api.Cfg) {n : Slice} (hn : n.Valid) {p : Prefilter}
    (hg : p.GoodFor n) : TwoWay.StratCost (p.find cfg) := fun hay hh =>
  Costs.of_total fun c =>
    let ⟨r, c', e, _, hx, hc⟩ := Prefilter.find_run cfg hn hg hay hh c
    ⟨r, c', e, _, hc, Nat.le_refl _, hx⟩

/-! ### what is used of Two-Way -/

/-- `tw` is the value `twoway::Finder::new` returned for a needle with the bytes of `n` -/
def TwBuilt (n : Slice) (tw : TwoWay.TwoWay) : Prop :=
  ∃ n0 c0 c0', n0.Valid ∧ n.toList = n0.toList ∧ TwoWay.Finder.new n0 c0 = .ok tw c0'

/-- `tw` is the value `twoway::FinderRev::new` returned for a needle with the bytes of `n` -/
def TwRevBuilt (n : Slice) (tw : TwoWay.TwoWay) : Prop :=
  ∃ n0 c0 c0', n0.Valid ∧ n.toList = n0.toList ∧ TwoWay.FinderRev.new n0 c0 = .ok tw c0'

theorem TwBuilt.congr {n n0 : Slice} (hb : n.toList = n0.toList) {tw : TwoWay.TwoWay}
    (h : TwBuilt n0 tw) : TwBuilt n tw := by
  obtain ⟨n1, c0, c0', a, b, c⟩ := h
  exact ⟨n1, c0, c0', a, hb.trans b, c⟩

theorem TwRevBuilt.congr {n n0 : Slice} (hb : n.toList = n0.toList) {tw : TwoWay.TwoWay}
    (h : TwRevBuilt n0 tw) : TwRevBuilt n tw := by
  obtain ⟨n1, c0, c0', a, b, c⟩ := h
  exact ⟨n1, c0, c0', a, hb.trans b, c⟩

theorem TwBuilt.find_run {n : Slice} {tw : TwoWay.TwoWay} (hb : TwBuilt n tw) (hn : n.Valid)
    (hay : Slice) (hh : hay.Valid) (pre : Option Pre)
    (hpre : ∀ p, pre = some p → PreSound n.toArray p.strat) (c : Ctr) :
    ∃ pre' c', TwoWay.Finder.findWithPrefilter tw pre hay n c =
        .ok (Spec.leftmost hay.toArray n.toArray, pre') c' ∧
      ((∀ p, pre = some p → TwoWay.StratCost p.strat) →
        c'.steps ≤ c.steps + 1031 * scanned (Spec.leftmost hay.toArray n.toArray) hay.len +
          2 * n.len + 1) :=
  let ⟨n0, c0, c0', hn0, hbytes, hnew⟩ := hb
  let ⟨pre', c', e, _, hs⟩ :=
    TwoWay.find_run_of_cert n0 n hay tw c0 c0' hn0 hn hh hbytes hnew pre hpre c
  ⟨pre', c', e, hs⟩

theorem TwRevBuilt.rfind_run {n : Slice} {tw : TwoWay.TwoWay} (hb : TwRevBuilt n tw)
    (hn : n.Valid) (hay : Slice) (hh : hay.Valid) (c : Ctr) :
    ∃ c', TwoWay.FinderRev.rfind tw hay n c = .ok (Spec.rightmost hay.toArray n.toArray) c' ∧
      c'.steps + 3 * TwoWay.endOf n.len (Spec.rightmost hay.toArray n.toArray) ≤
        c.steps + 3 * hay.len + 2 * n.len + 1 :=
  let ⟨n0, c0, c0', hn0, hbytes, hnew⟩ := hb
  TwoWay.rfind_run_of_cert n0 n hay tw c0 c0' hn0 hn hh hbytes hnew c

/-- Forward Two-Way: for every needle of at least two bytes `Finder::new` returns normally, and
the finder it returns, run by `find_with_prefilter` with no prefilter or with any sound one in
any state, on any haystack at least as long as the needle, for a search needle holding the same
bytes as the construction needle, returns the leftmost occurrence and does not fault. -/
structure TwoWayFwdOk : Prop where
  new_ok : ∀ (n : Slice), n.Valid → 2 ≤ n.len → ∀ c, ∃ tw c', TwoWay.Finder.new n c = .ok tw c'
  find_ok : ∀ (n0 n hay : Slice) (tw : TwoWay.TwoWay) (c0 c0' : Ctr),
    n0.Valid → n.Valid → hay.Valid → n.toList = n0.toList → 2 ≤ n.len → n.len ≤ hay.len →
    TwoWay.Finder.new n0 c0 = .ok tw c0' →
    ∀ (pre : Option Pre), (∀ p, pre = some p → PreSound n.toArray p.strat) → ∀ c,
      ∃ pre' c', TwoWay.Finder.findWithPrefilter tw pre hay n c =
        .ok (Spec.leftmost hay.toArray n.toArray, pre') c'

/-- Reverse Two-Way, likewise with the rightmost occurrence. -/
structure TwoWayRevOk : Prop where
  new_ok : ∀ (n : Slice), n.Valid → 2 ≤ n.len → ∀ c, ∃ tw c', TwoWay.FinderRev.new n c = .ok tw c'
  rfind_ok : ∀ (n0 n hay : Slice) (tw : TwoWay.TwoWay) (c0 c0' : Ctr),
    n0.Valid → n.Valid → hay.Valid → n.toList = n0.toList → 2 ≤ n.len → n.len ≤ hay.len →
    TwoWay.FinderRev.new n0 c0 = .ok tw c0' →
    ∀ c, ∃ c', TwoWay.FinderRev.rfind tw hay n c = .ok (Spec.rightmost hay.toArray n.toArray) c'

/-- both directions of Two-Way (`Model/TwoWay.lean`); it holds: `twoWayOk` -/
structure TwoWayOk : Prop where
  fwd : TwoWayFwdOk
  rev : TwoWayRevOk

/-- from the certificate `TwoWay.cert_fwd` -/
theorem twoWayFwdOk : TwoWayFwdOk where
  new_ok := fun n hn _ c => by
    obtain ⟨tw, c', h, _⟩ := TwoWay.cert_fwd n hn c
    exact ⟨tw, c', h⟩
  find_ok := fun n0 n hay tw c0 c0' hn0 hn hh hb _ _ hnew pre hpre c =>
    TwoWay.find_ok_of_cert n0 n hay tw c0 c0' hn0 hn hh hb hnew pre hpre c

/-- from the certificate `TwoWay.cert_rev` -/
theorem twoWayRevOk : TwoWayRevOk where
  new_ok := fun n hn _ c => by
    obtain ⟨tw, c', h, _⟩ := TwoWay.cert_rev n hn c
    exact ⟨tw, c', h⟩
  rfind_ok := fun n0 n hay tw c0 c0' hn0 hn hh hb _ _ hnew c =>
    let ⟨c', e, _⟩ := TwoWay.rfind_run_of_cert n0 n hay tw c0 c0' hn0 hn hh hb hnew c
    ⟨c', e⟩

theorem twoWayOk : TwoWayOk := ⟨twoWayFwdOk, twoWayRevOk⟩

/-! ### searchers built by `Searcher::new` -/

/-- what `Searcher::new(.., needle)` returns, for a needle with the bytes of `n` -/
def Searcher.GoodFor (n : Slice) (s : Searcher) : Prop :=
  s.rabinkarp = RabinKarp.Finder.spec n.toList ∧
  match s.kind with
  | .empty => n.len = 0
  | .oneByte b => n.len = 1 ∧ b = n.getD 0
  | .twoWay tw => 2 ≤ n.len ∧ TwBuilt n tw
  | .twoWayWithPrefilter tw p => 2 ≤ n.len ∧ TwBuilt n tw ∧ p.GoodFor n
  | .packed vf => vf.GoodFor n

/-- the strategy is one of the two Two-Way kinds -/
def Searcher.usesTwoWay (s : Searcher) : Prop :=
  match s.kind with
  | .twoWay _ => True
  | .twoWayWithPrefilter _ _ => True
  | _ => False

/-- `GoodFor` only depends on the needle's bytes (C16: the needle may have moved) -/
theorem Searcher.GoodFor.congr {n n0 : Slice} (hb : n.toList = n0.toList) {s : Searcher}
    (h : s.GoodFor n0) : s.GoodFor n := by
  have hl := (Slice.same_bytes hb).1
  obtain ⟨h1, h2⟩ := h
  refine ⟨by rw [h1, hb], ?_⟩
  obtain ⟨kind, rk⟩ := s
  cases kind with
  | empty => exact hl.trans h2
  | oneByte b =>
    exact ⟨hl.trans h2.1, by rw [h2.2, Slice.getD_of_toList_eq hb (h2.1 ▸ Nat.one_pos)]⟩
  | twoWay tw => exact ⟨hl ▸ h2.1, h2.2.congr hb⟩
  | twoWayWithPrefilter tw p => exact ⟨hl ▸ h2.1, h2.2.1.congr hb, h2.2.2.congr hb⟩
  | packed vf => exact VecFinder.GoodFor.congr hb h2

/-- what the cost analysis of `Searcher::find` needs from the searcher besides `GoodFor` -/
def PackedOk (needle : Slice) (s : Searcher) : Prop :=
  ∀ vf, s.kind = .packed vf → needle.len ≤ Generated.packedMaxLen

theorem PackedOk.congr {n n0 : Slice} (hb : n.toList = n0.toList) {s : Searcher}
    (h : PackedOk n0 s) : PackedOk n s :=
  fun vf hv => (Slice.same_bytes hb).1 ▸ h vf hv

/-! ### `Searcher::find`

The generated constants enter the step bound through `Generated.packedMaxLen <= 64` and
`Generated.rkFastThreshold <= 64` (by `decide`). -/

theorem packedMaxLen_le : Generated.packedMaxLen ≤ 64 := by decide
theorem rkFastThreshold_le : Generated.rkFastThreshold ≤ 64 := by decide

/-- the Rabin-Karp bound on a haystack shorter than a threshold `T ≤ 4 * q`, without the
division: the `q` is 16 for the thresholds of at most 64 bytes, 24 for the vector searcher's
`min_haystack_len` of at most 96 -/
theorem rk_short {hl nl T q : Nat} (h : hl < T) (hT : T ≤ 4 * q) :
    (hl - nl + 1) * (nl / 4 + 3) + nl ≤ (q + 1) * nl + 12 * q := by
  have ha : hl - nl + 1 ≤ q * 4 :=
    Nat.le_trans (Nat.succ_le_succ (Nat.sub_le hl nl)) (by omega)
  have h4 : 4 * (nl / 4 + 3) ≤ nl + 12 := by omega
  calc (hl - nl + 1) * (nl / 4 + 3) + nl
      ≤ q * 4 * (nl / 4 + 3) + nl := Nat.add_le_add_right (Nat.mul_le_mul_right _ ha) _
    _ = q * (4 * (nl / 4 + 3)) + nl := by rw [Nat.mul_assoc]
    _ ≤ q * (nl + 12) + nl := Nat.add_le_add_right (Nat.mul_le_mul_left _ h4) _
    _ = (q + 1) * nl + 12 * q := by
      rw [Nat.mul_add, Nat.add_mul, Nat.one_mul, Nat.mul_comm q 12, Nat.add_right_comm]

theorem lt_of_isFast {hay n : Slice} (h : RabinKarp.isFast hay n = true) :
    hay.len < Generated.rkFastThreshold :=
  of_decide_eq_true (isFast_eq_generated hay n ▸ h)

/-- The searcher's own Rabin-Karp finder, which three of its strategies run on a haystack shorter
than a threshold `T`. -/
theorem rk_find_short {rk : RabinKarp.Finder} {n : Slice}
    (hrk : rk = RabinKarp.Finder.spec n.toList) (hay : Slice) (hh : hay.Valid) (hn : n.Valid)
    {T : Nat} (hlt : hay.len < T) (c : Ctr) :
    ∃ c', rk.find hay n c = .ok (Spec.leftmost hay.toArray n.toArray) c' ∧
      ∀ q, T ≤ 4 * q → c'.steps ≤ c.steps + ((q + 1) * n.len + 12 * q) := by
  obtain ⟨c', e, hs⟩ := RabinKarp.find_correct_of_spec rk hay n c hh hn hrk
  rw [Nat.add_assoc] at hs
  exact ⟨c', e, fun q hT => Nat.le_trans hs (Nat.add_le_add_left (rk_short hlt hT) _)⟩

/-- `searcher_kind_two_way`: Rabin-Karp below its threshold (`q = 16`), Two-Way without a prefilter
above, which `TwBuilt.find_run` bounds by the price of Two-Way with one. -/
theorem Searcher.kindTwoWay_run {n : Slice} {s : Searcher}
    (hrk : s.rabinkarp = RabinKarp.Finder.spec n.toList) {tw : TwoWay.TwoWay} (hb : TwBuilt n tw)
    (hay : Slice) (hh : hay.Valid) (hn : n.Valid) (c : Ctr) :
    ∃ c', s.kindTwoWay tw hay n c = .ok (Spec.leftmost hay.toArray n.toArray) c' ∧
      c'.steps ≤ c.steps +
        (1031 * scanned (Spec.leftmost hay.toArray n.toArray) hay.len + 17 * n.len + 192) := by
  unfold Searcher.kindTwoWay
  by_cases hf : RabinKarp.isFast hay n = true
  · rw [if_pos hf]
    obtain ⟨c', e, hs⟩ := rk_find_short hrk hay hh hn (lt_of_isFast hf) c
    exact ⟨c', e, Nat.le_trans (hs 16 rkFastThreshold_le) (by omega)⟩
  · rw [if_neg hf]
    obtain ⟨pre', c', e, hs⟩ := hb.find_run hn hay hh none nofun c
    exact ⟨c', bind_ok e, Nat.le_trans (hs nofun) (by omega)⟩

/-- `searcher_kind_two_way_with_prefilter`, from every prefilter state: Rabin-Karp below its
threshold, Two-Way with the prefilter strategy `Searcher::new` built above. -/
theorem Searcher.kindTwoWayWithPrefilter_run (cfg : Api.Cfg) {n : Slice} {s : Searcher}
    (hrk : s.rabinkarp = RabinKarp.Finder.spec n.toList) {tw : TwoWay.TwoWay} (hb : TwBuilt n tw)
    {p : Prefilter} (hp : p.GoodFor n) (st : PrefilterState) (hay : Slice) (hh : hay.Valid)
    (hn : n.Valid) (c : Ctr) :
    ∃ st' c', s.kindTwoWayWithPrefilter cfg tw p st hay n c =
        .ok (Spec.leftmost hay.toArray n.toArray, st') c' ∧
      c'.steps ≤ c.steps +
        (1031 * scanned (Spec.leftmost hay.toArray n.toArray) hay.len + 17 * n.len + 192) := by
  unfold Searcher.kindTwoWayWithPrefilter
  by_cases hf : RabinKarp.isFast hay n = true
  · rw [if_pos hf]
    obtain ⟨c', e, hs⟩ := rk_find_short hrk hay hh hn (lt_of_isFast hf) c
    exact ⟨st, c', bind_ok e, Nat.le_trans (hs 16 rkFastThreshold_le) (by omega)⟩
  · rw [if_neg hf]
    obtain ⟨pre', c', e, hs⟩ :=
      hb.find_run hn hay hh (some { state := st, strat := p.find cfg })
        (fun q hq => Option.some.inj hq ▸ Prefilter.find_sound cfg hn hp) c
    have hs := hs fun q hq => Option.some.inj hq ▸ Prefilter.find_stratCost cfg hn hp
    -- the model reads the final state off `pre'`
    cases pre' <;> exact ⟨_, c', bind_ok e, by omega⟩

/-- `searcher_kind_sse2 / avx2 / simd128 / neon`: Rabin-Karp below the finder's
`min_haystack_len`, the vector searcher above.  For a needle of at most `MAX_LEN <= 64` bytes that
minimum is at most `96 = 4 * 24`, so Rabin-Karp takes at most `25 * 64 + 288 = 1888` steps, and
the vector searcher at most `1 + 32 * (64 / 4 + 3) = 609` per byte. -/
theorem Searcher.kindPacked_run {n : Slice} {s : Searcher}
    (hrk : s.rabinkarp = RabinKarp.Finder.spec n.toList) {vf : VecFinder} (hg : vf.GoodFor n)
    (hay : Slice) (hh : hay.Valid) (hn : n.Valid) (c : Ctr) :
    ∃ c', s.kindPacked vf hay n c = .ok (Spec.leftmost hay.toArray n.toArray) c' ∧
      (n.len ≤ Generated.packedMaxLen → c'.steps ≤ c.steps +
        (609 * scanned (Spec.leftmost hay.toArray n.toArray) hay.len + 1888)) := by
  unfold Searcher.kindPacked
  by_cases hsm : hay.len < vf.minHaystackLen
  · rw [if_pos hsm]
    obtain ⟨c', e, hs⟩ := rk_find_short hrk hay hh hn hsm c
    refine ⟨c', e, fun hlen => ?_⟩
    have h64 : n.len ≤ 64 := Nat.le_trans hlen packedMaxLen_le
    exact Nat.le_trans (hs 24 (Nat.le_trans hg.minHaystackLen_le (by omega))) (by omega)
  · rw [if_neg hsm]
    obtain ⟨c', e, hs⟩ := VecFinder.find_run hg hay hh hn (Nat.le_of_not_lt hsm) c
    refine ⟨c', e, fun hlen => Nat.le_trans hs (Nat.add_le_add_left ?_ _)⟩
    have h64 : n.len ≤ 64 := Nat.le_trans hlen packedMaxLen_le
    have hW : 1 + 32 * PackedPair.candCost n ≤ 609 := by unfold PackedPair.candCost; omega
    exact Nat.le_trans (Nat.mul_le_mul_right _ hW) (by omega)

/-- **`Searcher::find`, every strategy**, from every prefilter state.  The step bound needs the
vector kind to own only needles of at most `MAX_LEN` bytes (`PackedOk`: what `Searcher::new`
returns, `Searcher.new_run`); it covers the bound of each strategy (`kindTwoWay_run`,
`kindTwoWayWithPrefilter_run`, `kindPacked_run`) and that of `memchr` for one byte.  `scanned` =
answer + 1, or `haystack.len()` for `None`. -/
theorem Searcher.find_spec (cfg : Api.Cfg) {n : Slice} {s : Searcher} (hg : s.GoodFor n)
    (hay : Slice) (hh : hay.Valid) (hn : n.Valid) (st : PrefilterState) (c : Ctr) :
    ∃ st' c', s.find cfg st hay n c = .ok (Spec.leftmost hay.toArray n.toArray, st') c' ∧
      (PackedOk n s → c'.steps ≤ c.steps +
        (1031 * Fallback.scanned (Spec.leftmost hay.toArray n.toArray) hay.len + 17 * n.len +
          2000)) := by
  obtain ⟨hrk, hk⟩ := hg
  unfold Searcher.find
  by_cases hshort : hay.len < n.len
  · rw [if_pos hshort,
      Spec.leftmost_of_short (by rw [Slice.toArray_size hh, Slice.toArray_size hn]; exact hshort)]
    exact ⟨st, c, rfl, fun _ => Nat.le_add_right _ _⟩
  · rw [if_neg hshort]
    obtain ⟨kind, rk⟩ := s
    cases kind with
    | empty =>
      rw [Spec.leftmost_empty (by rw [Slice.toArray_size hn]; exact hk)]
      exact ⟨st, c, rfl, fun _ => Nat.le_add_right _ _⟩
    | oneByte b =>
      obtain ⟨h1, rfl⟩ := hk
      rw [Slice.toArray_of_len_one hn h1, Spec.leftmost_singleton, Slice.toArray_toList hh]
      obtain ⟨c', h, hs⟩ := Cost.memchrOk cfg (n.getD 0) hay c hh
      exact ⟨st, c', bind_ok h, fun _ => Nat.le_trans hs (by omega)⟩
    | twoWay tw =>
      obtain ⟨c', h, hs⟩ := Searcher.kindTwoWay_run hrk hk.2 hay hh hn c
      exact ⟨st, c', bind_ok h, fun _ => Nat.le_trans hs (by omega)⟩
    | twoWayWithPrefilter tw p =>
      obtain ⟨st', c', h, hs⟩ :=
        Searcher.kindTwoWayWithPrefilter_run cfg hrk hk.2.1 hk.2.2 st hay hh hn c
      exact ⟨st', c', h, fun _ => Nat.le_trans hs (by omega)⟩
    | packed vf =>
      obtain ⟨c', h, hs⟩ := Searcher.kindPacked_run hrk hk hay hh hn c
      exact ⟨st, c', bind_ok h, fun hpk => Nat.le_trans (hs (hpk vf rfl)) (by omega)⟩

/-- `Searcher.find_spec` for a searcher whose step bound applies -/
theorem Searcher.find_run (cfg : Api.Cfg) {n : Slice} {s : Searcher} (hg : s.GoodFor n)
    (hpk : PackedOk n s) (hay : Slice) (hh : hay.Valid) (hn : n.Valid) (st : PrefilterState)
    (c : Ctr) :
    ∃ st' c', s.find cfg st hay n c = .ok (Spec.leftmost hay.toArray n.toArray, st') c' ∧
      c'.steps ≤ c.steps + (1031 * Fallback.scanned (Spec.leftmost hay.toArray n.toArray) hay.len +
        17 * n.len + 2000) :=
  let ⟨st', c', e, hs⟩ := Searcher.find_spec cfg hg hay hh hn st c
  ⟨st', c', e, hs hpk⟩

/-- **C03 at the `Searcher` level**: the value part of `Searcher.find_spec`. -/
theorem Searcher.find_good (cfg : Api.Cfg) {n : Slice} {s : Searcher} (hg : s.GoodFor n)
    (hay : Slice) (hh : hay.Valid) (hn : n.Valid) (st : PrefilterState) (c : Ctr) :
    ∃ st' c', s.find cfg st hay n c = .ok (Spec.leftmost hay.toArray n.toArray, st') c' :=
  let ⟨st', c', e, _⟩ := Searcher.find_spec cfg hg hay hh hn st c
  ⟨st', c', e⟩

/-! ### `Searcher::new` depends on the configuration only through `vecKind` -/

/-- `Finder::with_pair_impl(needle, pair)` of the ISA `k` -/
def VecFinder.build (k : VecKind) (needle : Slice) (pair : Pair) : M VecFinder :=
  match k with
  | .avx2 => do
    let sse2 ← PackedPair.Finder.new Sensible.sse2 needle pair.index1.toNat pair.index2.toNat
    let avx2 ← PackedPair.Finder.new Sensible.avx2 needle pair.index1.toNat pair.index2.toNat
    pure (.avx2 pair sse2 avx2)
  | .sse2 => do
    let f ← PackedPair.Finder.new Sensible.sse2 needle pair.index1.toNat pair.index2.toNat
    pure (.sse2 pair f)
  | .neon => do
    let f ← PackedPair.Finder.new Neon.impl needle pair.index1.toNat pair.index2.toNat
    pure (.neon pair f)
  | .simd128 => do
    let f ← PackedPair.Finder.new Sensible.simd128 needle pair.index1.toNat pair.index2.toNat
    pure (.simd128 pair f)

theorem VecFinder.build_ok (k : VecKind) (n : Slice) (pair : Pair) (hp : pair.ValidFor n)
    (c : Ctr) : ∃ vf, VecFinder.build k n pair c = .ok vf c ∧ vf.GoodFor n := by
  cases k <;>
    simp only [VecFinder.build, bind, M.bind, PackedPair.new_ok n _ _ _ hp.lt1 hp.lt2, pure,
      M.pure] <;>
    exact ⟨_, rfl, hp, by simp only [and_self]⟩

/-- `with_pair` is `is_available()` in front of `with_pair_impl` -/
theorem VecFinder.withPair_eq (cfg : Api.Cfg) (k : VecKind) (n : Slice) (pair : Pair) :
    VecFinder.withPair cfg k n pair =
      if k.isAvailable cfg then VecFinder.build k n pair >>= fun vf => pure (some vf)
      else pure none := by
  unfold VecFinder.withPair VecFinder.build
  cases k <;> simp only [M.bind_assoc, pure_bind']

/-- `<isa>::packedpair::Finder::with_pair`: `None` iff the ISA is unavailable; never faults for
a valid pair -/
theorem VecFinder.withPair_ok (cfg : Api.Cfg) (k : VecKind) (n : Slice) (pair : Pair)
    (hp : pair.ValidFor n) (c : Ctr) :
    ∃ r, VecFinder.withPair cfg k n pair c = .ok r c ∧ r.isSome = k.isAvailable cfg ∧
      ∀ vf ∈ r, vf.GoodFor n := by
  rw [VecFinder.withPair_eq]
  cases k.isAvailable cfg
  · exact ⟨none, rfl, rfl, fun _ h => nomatch h⟩
  · obtain ⟨vf, hv, hg⟩ := VecFinder.build_ok k n pair hp c
    exact ⟨some vf, bind_ok hv, rfl, fun _ h => Option.some.inj h ▸ hg⟩

/-- `with_pair` in front of any continuation `K`: stated for a variable `K` so that it rewrites
the `if let Some(pp) = <isa>::Finder::with_pair(needle, pair) { .. } else { .. }` of the model
whatever `match` that was compiled to -/
theorem VecFinder.withPair_bind {α : Type} (cfg : Api.Cfg) (k : VecKind) (n : Slice) (pair : Pair)
    (K : Option VecFinder → M α) :
    (VecFinder.withPair cfg k n pair >>= K) =
      if k.isAvailable cfg then VecFinder.build k n pair >>= fun vf => K (some vf) else K none := by
  rw [VecFinder.withPair_eq]
  cases k.isAvailable cfg
  · rfl
  · simp only [if_true, M.bind_assoc, pure_bind']

/-- the part of `Searcher::new` after the pair has been chosen, as a function of `vecKind cfg` -/
def Searcher.afterPair (k : Option VecKind) (pf : PrefilterConfig)
    (rank : UInt8 → UInt8) (n : Slice) (rk : RabinKarp.Finder) (pair : Pair) : M Searcher :=
  match k with
  | some k => VecFinder.build k n pair >>= Searcher.withVec pf n rk
  | none => Searcher.withFallback pf rank pair n rk

/-- `Searcher::new` with the cfg chain replaced by its summary `vecKind cfg` -/
def Searcher.newK (k : Option VecKind) (prefilter : PrefilterConfig) (rank : UInt8 → UInt8)
    (needle : Slice) : M Searcher := do
  let rabinkarp ← RabinKarp.Finder.new needle
  if needle.len ≤ 1 then
    if needle.len = 0 then pure { kind := .empty, rabinkarp := rabinkarp }
    else do
      dbgAssert "Searcher::new: debug_assert_eq!(1, needle.len())" (1 == needle.len)
      let b ← needle.get "Searcher::new: needle[0]" 0
      pure { kind := .oneByte b, rabinkarp := rabinkarp }
  else
  match ← Pair.withRanker needle rank with
  | none => Searcher.twoway needle rabinkarp none
  | some pair => do
    dbgAssert "Searcher::new: pair offsets should not be equivalent"
      (pair.index1 != pair.index2)
    Searcher.afterPair k prefilter rank needle rabinkarp pair

theorem Searcher.new_eq_newK (cfg : Api.Cfg) (pf : PrefilterConfig) (rank : UInt8 → UInt8)
    (n : Slice) : Searcher.new cfg pf rank n = Searcher.newK (vecKind cfg) pf rank n := by
  unfold Searcher.new Searcher.newK Searcher.afterPair vecKind
  simp only [VecFinder.withPair_bind]
  -- `cfgBlock cfg` and the `is_available()` tests mention nothing that is bound on the way to them
  cases cfgBlock cfg
  · cases VecKind.isAvailable cfg .avx2 <;> cases VecKind.isAvailable cfg .sse2 <;> rfl
  · cases VecKind.isAvailable cfg .simd128 <;> rfl
  · cases VecKind.isAvailable cfg .neon <;> rfl
  · rfl

/-- C09: two configurations with the same `vecKind` build the same searcher (same value, same
steps, same faults), for every prefilter setting, ranker and needle. -/
theorem Searcher.new_eq_of_vecKind (cfg cfg' : Api.Cfg) (h : vecKind cfg = vecKind cfg')
    (pf : PrefilterConfig) (rank : UInt8 → UInt8) (n : Slice) :
    Searcher.new cfg pf rank n = Searcher.new cfg' pf rank n := by
  rw [Searcher.new_eq_newK, Searcher.new_eq_newK, h]

/-! ### `Searcher::new` -/

/-- what every branch of `Searcher::new` for a needle of two or more bytes ends in, after the pair
has been chosen: a good searcher, the packed kind only for short needles, at most
`6 * needle.len() + 2` steps (those of `twoway::Finder::new`) -/
structure Searcher.Built (n : Slice) (c : Ctr) (s : Searcher) (c' : Ctr) : Prop where
  good : s.GoodFor n
  packed : PackedOk n s
  steps : c'.steps ≤ c.steps + 6 * n.len + 2

theorem Searcher.twoway_spec (n : Slice) (hn : n.Valid) (h2 : 2 ≤ n.len)
    (rk : RabinKarp.Finder) (hrk : rk = RabinKarp.Finder.spec n.toList)
    (prestrat : Option Prefilter) (hp : ∀ p ∈ prestrat, p.GoodFor n) (c : Ctr) :
    ∃ s c', Searcher.twoway n rk prestrat c = .ok s c' ∧ Searcher.Built n c s c' := by
  obtain ⟨t, c', h, hs, _⟩ := TwoWay.finder_new_spec n c hn
  have hb : TwBuilt n t := ⟨n, c, c', hn, rfl, h⟩
  unfold Searcher.twoway
  simp only [bind_ok h]
  cases prestrat with
  | none =>
    exact ⟨⟨.twoWay t, rk⟩, c', rfl,
      { good := ⟨hrk, h2, hb⟩, packed := (fun _ h => nomatch h), steps := hs }⟩
  | some p =>
    exact ⟨⟨.twoWayWithPrefilter t p, rk⟩, c', rfl,
      { good := ⟨hrk, h2, hb, hp p rfl⟩, packed := (fun _ h => nomatch h), steps := hs }⟩

theorem Prefilter.ofVec_eq {n : Slice} {vf : VecFinder} (hlt : vf.pair.index1.toNat < n.len) :
    Prefilter.ofVec vf n = pure ⟨.vec vf, n.getD vf.pair.index1.toNat, vf.pair.index1⟩ := by
  simp only [Prefilter.ofVec, Slice.get_ok hlt, pure_bind']

theorem Prefilter.fallback_ok (rank : UInt8 → UInt8) {pair : Pair} {n : Slice}
    (hp : pair.ValidFor n) (c : Ctr) :
    ∃ r, Prefilter.fallback rank pair n c = .ok r c ∧ ∀ p ∈ r, p.GoodFor n := by
  unfold Prefilter.fallback
  simp only [Slice.get_ok hp.lt1, pure_bind']
  split
  · exact ⟨none, rfl, fun _ h => nomatch h⟩
  · simp only [bind_ok (Fallback.withPair_ok n pair hp c)]
    exact ⟨some ⟨.fallback ⟨pair, _, _⟩, _, pair.index1⟩, rfl,
      fun _ h => Option.some.inj h ▸ ⟨hp.lt1, rfl, hp, rfl, rfl⟩⟩

theorem Searcher.withVec_spec (pf : PrefilterConfig) (n : Slice) (hn : n.Valid) (h2 : 2 ≤ n.len)
    (rk : RabinKarp.Finder) (hrk : rk = RabinKarp.Finder.spec n.toList) {vf : VecFinder}
    (hg : vf.GoodFor n) (c : Ctr) :
    ∃ s c', Searcher.withVec pf n rk vf c = .ok s c' ∧ Searcher.Built n c s c' := by
  have hpg : Prefilter.GoodFor n ⟨.vec vf, n.getD vf.pair.index1.toNat, vf.pair.index1⟩ :=
    ⟨hg.1.lt1, rfl, hg⟩
  -- `do_packed_search` only owns needles of at most `MAX_LEN` bytes
  have hpk : doPackedSearch n = true → n.len ≤ Generated.packedMaxLen := fun hd => by
    simp only [doPackedSearch, Bool.and_eq_true, decide_eq_true_eq] at hd
    exact hd.2
  unfold Searcher.withVec
  rw [Prefilter.ofVec_eq hg.1.lt1]
  exact Holds.ite (fun hd => Holds.pure ⟨⟨hrk, hg⟩, fun _ _ => hpk hd, by omega⟩)
    fun _ => Holds.ite
    (fun _ => Searcher.twoway_spec n hn h2 rk hrk none (fun _ h => nomatch h) c)
    (fun _ => Searcher.twoway_spec n hn h2 rk hrk _ (fun _ h => Option.some.inj h ▸ hpg) c)

theorem Searcher.withFallback_spec (pf : PrefilterConfig)
    (rank : UInt8 → UInt8) {pair : Pair} (n : Slice) (hn : n.Valid) (h2 : 2 ≤ n.len)
    (hp : pair.ValidFor n) (rk : RabinKarp.Finder) (hrk : rk = RabinKarp.Finder.spec n.toList)
    (c : Ctr) :
    ∃ s c', Searcher.withFallback pf rank pair n rk c = .ok s c' ∧ Searcher.Built n c s c' := by
  unfold Searcher.withFallback
  refine Holds.ite
    (fun _ => Searcher.twoway_spec n hn h2 rk hrk none (fun _ h => nomatch h) c) fun _ => ?_
  obtain ⟨r, hr, hrg⟩ := Prefilter.fallback_ok rank hp (n := n) c
  exact Holds.run_bind hr (Searcher.twoway_spec n hn h2 rk hrk r hrg c)

theorem Searcher.afterPair_spec (k : Option VecKind) (pf : PrefilterConfig) (rank : UInt8 → UInt8)
    {pair : Pair} (n : Slice) (hn : n.Valid) (h2 : 2 ≤ n.len) (hp : pair.ValidFor n)
    (rk : RabinKarp.Finder) (hrk : rk = RabinKarp.Finder.spec n.toList) (c : Ctr) :
    ∃ s c', Searcher.afterPair k pf rank n rk pair c = .ok s c' ∧ Searcher.Built n c s c' := by
  cases k with
  | none => exact Searcher.withFallback_spec pf rank n hn h2 hp rk hrk c
  | some k =>
    obtain ⟨vf, hv, hg⟩ := VecFinder.build_ok k n pair hp c
    exact Holds.run_bind hv (Searcher.withVec_spec pf n hn h2 rk hrk hg c)

/-- `Searcher::new` can reach `Searcher::twoway` for this configuration and needle: at least
two bytes and no vector finder, or a needle outside `do_packed_search`'s range -/
def reachesTwoWay (cfg : Api.Cfg) (n : Slice) : Prop :=
  2 ≤ n.len ∧ (vecKind cfg = none ∨ doPackedSearch n = false)

/-- the Rabin-Karp construction (at most `needle.len()` steps), the pair selection (at most 255)
and the rest -/
theorem Searcher.new_steps {L s s1 s2 s' : Nat} (h1 : s1 ≤ s + L) (h2 : s2 ≤ s1 + 255)
    (h3 : s' ≤ s2 + 6 * L + 2) : s' ≤ s + 7 * L + 257 := by
  omega

/-- **`Searcher::new`, every branch**: no `debug_assert` fails, no index panics, and the packed
kind is only given needles of at most `MAX_LEN` bytes. -/
theorem Searcher.new_run (cfg : Api.Cfg) (pf : PrefilterConfig) (rank : UInt8 → UInt8)
    (n : Slice) (hn : n.Valid) (c : Ctr) :
    ∃ s c', Searcher.new cfg pf rank n c = .ok s c' ∧ s.GoodFor n ∧ PackedOk n s ∧
      c'.steps ≤ c.steps + 7 * n.len + 257 := by
  rw [Searcher.new_eq_newK]
  unfold Searcher.newK
  refine Holds.bind
    (P := fun rk c1 => rk = RabinKarp.Finder.spec n.toList ∧ c1.steps ≤ c.steps + n.len)
    ⟨_, _, RabinKarp.Finder.new_run n c, rfl, Nat.add_le_add_left (Nat.sub_le _ _) _⟩
    fun rk c1 ⟨hrk, hs1⟩ => ?_
  have hshort : c1.steps ≤ c.steps + 7 * n.len + 257 := by omega
  refine Holds.ite (fun h1 => Holds.ite
    (fun h0 => Holds.pure ⟨⟨hrk, h0⟩, (fun _ h => nomatch h), hshort⟩) fun h0 => ?_) fun hle => ?_
  · have h1 : n.len = 1 := Nat.le_antisymm h1 (Nat.pos_of_ne_zero h0)
    exact Holds.dbgAssert_bind (by rw [h1]; rfl) (Holds.get_bind (h1 ▸ Nat.one_pos)
      (Holds.pure ⟨⟨hrk, h1, rfl⟩, (fun _ h => nomatch h), hshort⟩))
  · have h2 : 2 ≤ n.len := Nat.lt_of_not_le hle
    refine Holds.bind (Pair.withRanker_correct n rank c1) fun r c2 hr => ?_
    cases r with
    | none => exact absurd (hr.1.mp rfl) (Nat.not_lt_of_ge h2)
    | some pair =>
      have hp := (hr.2.1 pair rfl).1
      refine Holds.dbgAssert_bind (bne_iff_ne.mpr hp.ne) ?_
      refine Holds.mono (Searcher.afterPair_spec (vecKind cfg) pf rank n hn h2 hp rk hrk c2)
        fun s c' hb => ⟨hb.good, hb.packed, Searcher.new_steps hs1 ?_ hb.steps⟩
      exact Nat.le_trans hr.2.2.1 (Nat.add_le_add_left (Nat.min_le_right _ _) _)

theorem Searcher.new_ok (cfg : Api.Cfg) (pf : PrefilterConfig) (rank : UInt8 → UInt8)
    (n : Slice) (hn : n.Valid) (c : Ctr) :
    ∃ s c', Searcher.new cfg pf rank n c = .ok s c' ∧ s.GoodFor n :=
  let ⟨s, c', h, hg, _⟩ := Searcher.new_run cfg pf rank n hn c
  ⟨s, c', h, hg⟩

/-! ### C03 / C10 / C09 for `Searcher::new(..).find(..)` -/

/-- **C03.find, every branch**: for every configuration, prefilter setting,
ranker, needle, haystack and EVERY prefilter state, `Searcher::new` returns normally and
`Searcher::find` returns the leftmost occurrence without a fault. -/
theorem C03.find_all (cfg : Api.Cfg) (pf : PrefilterConfig) (rank : UInt8 → UInt8)
    (needle hay : Slice) (hn : needle.Valid) (hh : hay.Valid) (st : PrefilterState) (c : Ctr) :
    ∃ s c1, Searcher.new cfg pf rank needle c = .ok s c1 ∧ ∀ c2, ∃ st' c3,
      s.find cfg st hay needle c2 = .ok (Spec.leftmost hay.toArray needle.toArray, st') c3 :=
  let ⟨s, c1, h, hg⟩ := Searcher.new_ok cfg pf rank needle hn c
  ⟨s, c1, h, fun c2 => Searcher.find_good cfg hg hay hh hn st c2⟩

set_option linter.unusedVariables false in
/-- **C03.find**, the branches of `Searcher::new` that never reach Two-Way (the empty needle,
one byte, and the packed kinds - needles of 2..=32 bytes when the configuration has a vector
finder - including their Rabin-Karp fallback for short haystacks): the special case of
`C03.find_all`; the hypothesis `hbranch` that singles these branches out is not used. -/
theorem C03.find (cfg : Api.Cfg) (pf : PrefilterConfig) (rank : UInt8 → UInt8)
    (needle hay : Slice) (hn : needle.Valid) (hh : hay.Valid)
    (hbranch : needle.len ≤ 1 ∨ ((vecKind cfg).isSome = true ∧ doPackedSearch needle = true))
    (st : PrefilterState) (c : Ctr) :
    ∃ s c1, Searcher.new cfg pf rank needle c = .ok s c1 ∧ ∀ c2, ∃ st' c3,
      s.find cfg st hay needle c2 = .ok (Spec.leftmost hay.toArray needle.toArray, st') c3 :=
  C03.find_all cfg pf rank needle hay hn hh st c

set_option linter.unusedVariables false in
/-- `C03.find_all` under the hypothesis `TwoWayFwdOk`, which holds (`twoWayFwdOk`) and is not
used. -/
theorem C03.find_partial (tw : TwoWayFwdOk) (cfg : Api.Cfg) (pf : PrefilterConfig)
    (rank : UInt8 → UInt8) (needle hay : Slice) (hn : needle.Valid) (hh : hay.Valid)
    (st : PrefilterState) (c : Ctr) :
    ∃ s c1, Searcher.new cfg pf rank needle c = .ok s c1 ∧ ∀ c2, ∃ st' c3,
      s.find cfg st hay needle c2 = .ok (Spec.leftmost hay.toArray needle.toArray, st') c3 :=
  C03.find_all cfg pf rank needle hay hn hh st c

/-- **C10 (+ C09)**: any two configurations, prefilter settings, rankers and
prefilter states give the same value. -/
theorem C10.find_indep_all (cfg cfg' : Api.Cfg) (pf pf' : PrefilterConfig)
    (rank rank' : UInt8 → UInt8) (needle hay : Slice) (hn : needle.Valid) (hh : hay.Valid)
    (st st' : PrefilterState) (c c' : Ctr) :
    ∃ s s' c1 c1', Searcher.new cfg pf rank needle c = .ok s c1 ∧
      Searcher.new cfg' pf' rank' needle c' = .ok s' c1' ∧
      ∀ c2 c2', ∃ v t t' c3 c3', s.find cfg st hay needle c2 = .ok (v, t) c3 ∧
        s'.find cfg' st' hay needle c2' = .ok (v, t') c3' := by
  obtain ⟨s, c1, h, hf⟩ := C03.find_all cfg pf rank needle hay hn hh st c
  obtain ⟨s', c1', h', hf'⟩ := C03.find_all cfg' pf' rank' needle hay hn hh st' c'
  refine ⟨s, s', c1, c1', h, h', fun c2 c2' => ?_⟩
  obtain ⟨t, c3, e⟩ := hf c2
  obtain ⟨t', c3', e'⟩ := hf' c2'
  exact ⟨_, t, t', c3, c3', e, e'⟩

/-! ### C04: `SearcherRev` -/

/-- what `SearcherRev::new(needle)` returns, for a needle with the bytes of `n` -/
def SearcherRev.GoodFor (n : Slice) (s : SearcherRev) : Prop :=
  s.rabinkarp.inner = RabinKarp.Finder.spec n.toList.reverse ∧
  match s.kind with
  | .empty => n.len = 0
  | .oneByte b => n.len = 1 ∧ b = n.getD 0
  | .twoWay tw => 2 ≤ n.len ∧ TwRevBuilt n tw

def SearcherRev.usesTwoWay (s : SearcherRev) : Prop :=
  match s.kind with
  | .twoWay _ => True
  | _ => False

theorem SearcherRev.GoodFor.congr {n n0 : Slice} (hb : n.toList = n0.toList) {s : SearcherRev}
    (h : s.GoodFor n0) : s.GoodFor n := by
  have hl := (Slice.same_bytes hb).1
  obtain ⟨h1, h2⟩ := h
  refine ⟨by rw [h1, hb], ?_⟩
  obtain ⟨kind, rk⟩ := s
  cases kind with
  | empty => exact hl.trans h2
  | oneByte b =>
    exact ⟨hl.trans h2.1, by rw [h2.2, Slice.getD_of_toList_eq hb (h2.1 ▸ Nat.one_pos)]⟩
  | twoWay tw => exact ⟨hl ▸ h2.1, h2.2.congr hb⟩

/-- the bytes a reverse search did not look at lie below the end of its match -/
theorem len_le_scannedRev_add_endOf (r : Option Nat) (len nl : Nat) :
    len ≤ Api.scannedRev r len + TwoWay.endOf nl r := by
  cases r with
  | none => exact Nat.le_add_right _ _
  | some q => simp only [Api.scannedRev, TwoWay.endOf]; omega

/-- **`SearcherRev::rfind`, every strategy**, for a reverse searcher built for the bytes of `n`;
`scannedRev` = `haystack.len()` - answer, or `haystack.len()` for `None`.  `3` per byte is Two-Way,
`17 * needle.len + 192` Rabin-Karp below its threshold (`rk_short` with `q = 16`). -/
theorem SearcherRev.rfind_run (cfg : Api.Cfg) {n : Slice} {s : SearcherRev} (hg : s.GoodFor n)
    (hay : Slice) (hh : hay.Valid) (hn : n.Valid) (c : Ctr) :
    ∃ c', s.rfind cfg hay n c = .ok (Spec.rightmost hay.toArray n.toArray) c' ∧
      c'.steps ≤ c.steps + (3 * Api.scannedRev (Spec.rightmost hay.toArray n.toArray) hay.len +
        17 * n.len + 192) := by
  obtain ⟨hrk, hk⟩ := hg
  unfold SearcherRev.rfind
  by_cases hshort : hay.len < n.len
  · rw [if_pos hshort,
      Spec.rightmost_of_short (by rw [Slice.toArray_size hh, Slice.toArray_size hn]; exact hshort)]
    exact ⟨c, rfl, Nat.le_add_right _ _⟩
  · rw [if_neg hshort]
    obtain ⟨kind, rk⟩ := s
    cases kind with
    | empty =>
      rw [Spec.rightmost_empty (by rw [Slice.toArray_size hn]; exact hk), Slice.toArray_size hh]
      exact ⟨c, rfl, Nat.le_add_right _ _⟩
    | oneByte b =>
      obtain ⟨h1, rfl⟩ := hk
      rw [Slice.toArray_of_len_one hn h1, Spec.rightmost_singleton, Slice.toArray_toList hh]
      obtain ⟨c', e, hs⟩ := topMemrchr_run cfg (n.getD 0) hay hh c
      exact ⟨c', e, Nat.le_trans hs (by omega)⟩
    | twoWay tw =>
      simp only []
      by_cases hf : RabinKarp.isFast hay n = true
      · rw [if_pos hf]
        obtain ⟨c', e, hs⟩ := RabinKarp.rfind_correct_of_spec rk hay n c hh hn hrk
        rw [Nat.add_assoc] at hs
        have := rk_short (nl := n.len) (q := 16) (lt_of_isFast hf) rkFastThreshold_le
        exact ⟨c', e, Nat.le_trans hs (Nat.le_trans (Nat.add_le_add_left this _) (by omega))⟩
      · rw [if_neg hf]
        obtain ⟨c', e, hs⟩ := hk.2.rfind_run hn hay hh c
        have := len_le_scannedRev_add_endOf (Spec.rightmost hay.toArray n.toArray) hay.len n.len
        exact ⟨c', e, by omega⟩

/-- **C04 at the `SearcherRev` level**: the value part of `SearcherRev.rfind_run`. -/
theorem SearcherRev.rfind_good (cfg : Api.Cfg) {n : Slice} {s : SearcherRev} (hg : s.GoodFor n)
    (hay : Slice) (hh : hay.Valid) (hn : n.Valid) (c : Ctr) :
    ∃ c', s.rfind cfg hay n c = .ok (Spec.rightmost hay.toArray n.toArray) c' :=
  let ⟨c', e, _⟩ := SearcherRev.rfind_run cfg hg hay hh hn c
  ⟨c', e⟩

/-- the Rabin-Karp construction (`needle.len() - 1` steps) after at most `6 * needle.len() + 2` -/
theorem SearcherRev.new_steps {L s s1 : Nat} (h : s1 ≤ s + 6 * L + 2) :
    s1 + (L - 1) ≤ s + 7 * L + 2 :=
  Nat.le_trans (Nat.add_le_add h (Nat.sub_le L 1)) (by omega)

theorem SearcherRev.new_run (n : Slice) (hn : n.Valid) (c : Ctr) :
    ∃ s c', SearcherRev.new n c = .ok s c' ∧ s.GoodFor n ∧ c'.steps ≤ c.steps + 7 * n.len + 2 := by
  -- the `do` block hands every branch the same tail, which adds the Rabin-Karp finder
  have tail : ∀ kind c1, c1.steps ≤ c.steps + 6 * n.len + 2 → (∀ rk : RabinKarp.FinderRev,
      rk.inner = RabinKarp.Finder.spec n.toList.reverse → SearcherRev.GoodFor n ⟨kind, rk⟩) →
      Holds (do let rk ← RabinKarp.FinderRev.new n; pure (⟨kind, rk⟩ : SearcherRev)) c1
        (fun s c' => s.GoodFor n ∧ c'.steps ≤ c.steps + 7 * n.len + 2) :=
    fun kind c1 hs hk => ⟨_, _, bind_ok (RabinKarp.FinderRev.new_run n c1), hk _ rfl,
      SearcherRev.new_steps hs⟩
  have h0s : c.steps ≤ c.steps + 6 * n.len + 2 := by omega
  unfold SearcherRev.new
  simp only [pure_bind']
  refine Holds.ite (fun h1 => Holds.ite (fun h0 => tail _ _ h0s fun _ hr => ⟨hr, h0⟩) fun h0 => ?_)
    fun hle => ?_
  · have h1 : n.len = 1 := Nat.le_antisymm h1 (Nat.pos_of_ne_zero h0)
    exact Holds.dbgAssert_bind (by rw [h1]; rfl) (Holds.get_bind (h1 ▸ Nat.one_pos)
      (tail _ _ h0s fun _ hr => ⟨hr, h1, rfl⟩))
  · have h2 : 2 ≤ n.len := Nat.lt_of_not_le hle
    obtain ⟨tw, c1, h, hs, _⟩ := TwoWay.finderRev_new_spec n c hn
    obtain ⟨s, c2, e, hg⟩ := tail (.twoWay tw) c1 hs fun _ hr => ⟨hr, h2, n, c, c1, hn, rfl, h⟩
    exact ⟨s, c2, (bind_ok h).trans e, hg⟩

theorem SearcherRev.new_ok (n : Slice) (hn : n.Valid) (c : Ctr) :
    ∃ s c', SearcherRev.new n c = .ok s c' ∧ s.GoodFor n :=
  let ⟨s, c', h, hg, _⟩ := SearcherRev.new_run n hn c
  ⟨s, c', h, hg⟩

/-- **C04.rfind, every branch** -/
theorem C04.rfind_all (cfg : Api.Cfg) (needle hay : Slice) (hn : needle.Valid) (hh : hay.Valid)
    (c : Ctr) :
    ∃ s c1, SearcherRev.new needle c = .ok s c1 ∧ ∀ c2, ∃ c3,
      s.rfind cfg hay needle c2 = .ok (Spec.rightmost hay.toArray needle.toArray) c3 :=
  let ⟨s, c1, h, hg⟩ := SearcherRev.new_ok needle hn c
  ⟨s, c1, h, fun c2 => SearcherRev.rfind_good cfg hg hay hh hn c2⟩

set_option linter.unusedVariables false in
/-- **C04.rfind**, needles of at most one byte (no Two-Way): the special case of `C04.rfind_all`;
the hypothesis `hbranch` is not used. -/
theorem C04.rfind (cfg : Api.Cfg) (needle hay : Slice) (hn : needle.Valid) (hh : hay.Valid)
    (hbranch : needle.len ≤ 1) (c : Ctr) :
    ∃ s c1, SearcherRev.new needle c = .ok s c1 ∧ ∀ c2, ∃ c3,
      s.rfind cfg hay needle c2 = .ok (Spec.rightmost hay.toArray needle.toArray) c3 :=
  C04.rfind_all cfg needle hay hn hh c

/-! ### the hypotheses are satisfiable -/

/-- two valid non-trivial slices (sub-slices of larger regions at odd addresses) and a
configuration with a vector finder: the hypotheses of `C03.find` / `C04.rfind` hold -/
example : (⟨⟨1, 1048577, #[0, 97, 98, 99, 0]⟩, 1, 3⟩ : Slice).Valid ∧
    (⟨⟨0, 4099, #[120, 120, 97, 98, 99, 120, 97, 98, 99, 120]⟩, 1, 8⟩ : Slice).Valid ∧
    (vecKind { arch := .x86_64, ctSse2 := true, ctAvx2 := false, ctNeon := false, std := true,
               cpuAvx2 := true }).isSome = true ∧
    doPackedSearch ⟨⟨1, 1048577, #[0, 97, 98, 99, 0]⟩, 1, 3⟩ = true := by
  refine ⟨by simp [Slice.Valid], by simp [Slice.Valid], by decide, by decide⟩

end Memchr.Memmem

section AxiomCheck
open Memchr.Memmem
#print axioms Memchr.Cost.memchrOk
#print axioms Prefilter.find_sound
#print axioms Searcher.find_good
#print axioms Searcher.new_ok
#print axioms twoWayOk
#print axioms C03.find_all
#print axioms C03.find
#print axioms C03.find_partial
#print axioms C10.find_indep_all
#print axioms Searcher.new_eq_of_vecKind
#print axioms C04.rfind_all
#print axioms C04.rfind
end AxiomCheck
