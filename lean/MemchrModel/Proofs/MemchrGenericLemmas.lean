/-
The interval predicates in which the results of the byte searches, vector and SWAR, are stated
(`NoHit`, `FirstRes`, `LastRes`, `cnt`) and their relation to the naive specifications; how far a
search looked (`upto`, `downto`: the step bounds are stated against these); the alignment and
distance arithmetic of the raw routines, about variables; the byte-by-byte helpers
(`fwd_byte_by_byte`, `rev_byte_by_byte`, `count_byte_by_byte`), which the vector wrappers and the
SWAR routines share.
-/
import MemchrModel.Base.Least
import MemchrModel.Base.Run
import MemchrModel.Proofs.SliceLemmas
import MemchrModel.Spec.Byte
import MemchrModel.Model.MemchrGeneric

namespace Memchr

namespace Generic

theorem pure_bind' {α β : Type} (a : α) (f : α → M β) : (pure a >>= f) = f a := rfl

theorem and_align {V : VecImpl} (L : Lawful V) (x : Nat) : x &&& V.align = x % V.bytes := by
  obtain ⟨k, hk⟩ := L.pow2
  rw [L.align_eq, hk, Nat.and_two_pow_sub_one_eq_mod]

theorem and_align_lt {V : VecImpl} (L : Lawful V) (x : Nat) : x &&& V.align < V.bytes := by
  rw [and_align L]
  exact Nat.mod_lt _ V.bytes_pos

theorem align_up_mod (x b : Nat) (hb : 0 < b) : (x + (b - x % b)) % b = 0 := by
  have e : x + (b - x % b) = b * (x / b) + b :=
    calc x + (b - x % b) = b * (x / b) + x % b + (b - x % b) := by rw [Nat.div_add_mod]
      _ = b * (x / b) + b := by
        rw [Nat.add_assoc, Nat.add_sub_cancel' (Nat.le_of_lt (Nat.mod_lt x hb))]
  rw [e, Nat.mul_add_mod, Nat.mod_self]

theorem align_down_mod (x b : Nat) : (x - x % b) % b = 0 := by
  rw [Nat.sub_eq_of_eq_add (Nat.div_add_mod x b).symm, Nat.mul_mod_right]

/-- `start.add(BYTES - (start & ALIGN))`, for a mask `al` that takes remainders mod `b`
(`V::ALIGN` with `and_align`, `USIZE_ALIGN`) -/
theorem align_up {al b x adv : Nat} (hand : x &&& al = x % b) (hb : 0 < b)
    (h : adv + (x &&& al) = b) : 0 < adv ∧ adv ≤ b ∧ (x + adv) % b = 0 := by
  obtain rfl : adv = b - x % b := hand ▸ Nat.eq_sub_of_add_eq h
  exact ⟨Nat.sub_pos_of_lt (Nat.mod_lt x hb), Nat.sub_le _ _, align_up_mod _ _ hb⟩

/-- `end.sub(end & ALIGN)` -/
theorem align_down {al b x q : Nat} (hand : x &&& al = x % b) (h : q + (x &&& al) = x) :
    q % b = 0 := by
  obtain rfl : q = x - x % b := hand ▸ Nat.eq_sub_of_add_eq h
  exact align_down_mod _ _

/-! ### distances: the side conditions of the vector loops, about variables -/

/-- `b` lies at most as far below `e` as `a` does -/
theorem le_of_add_le {a b x y e : Nat} (ha : a + x ≤ e) (hb : b + y = e) (hyx : y ≤ x) :
    a ≤ b := by
  omega

/-- a distance `d = e - cur` against a chunk width -/
theorem dist_ge {d cur e w : Nat} (hd : d + cur = e) (h : cur + w ≤ e) : w ≤ d := by
  omega

theorem dist_lt {d cur e w : Nat} (hd : d + cur = e) (h : e < cur + w) : d < w := by
  omega

/-- the tail re-alignment of `find_raw`: with `d < w` bytes left after `cur`, stepping back by
`w - d` lands on `lim = end - w` -/
theorem tail_back {lim w e cur d back : Nat} (hlim : lim + w = e) (hd : d + cur = e)
    (hback : back + d = w) : lim + back = cur := by
  omega

/-- no byte at an address in `[lo, hi)` satisfies `p` -/
def NoHit (m : Mem) (p : UInt8 → Bool) (lo hi : Nat) : Prop :=
  ∀ a, lo ≤ a → a < hi → p (m.byteAt a) = false

/-- `r` is the address of the first byte in `[lo, hi)` satisfying `p`, if any -/
def FirstRes (m : Mem) (p : UInt8 → Bool) (lo hi : Nat) : Option Nat → Prop
  | none => NoHit m p lo hi
  | some x => lo ≤ x ∧ x < hi ∧ p (m.byteAt x) = true ∧ NoHit m p lo x

/-- `r` is the address of the last byte in `[lo, hi)` satisfying `p`, if any -/
def LastRes (m : Mem) (p : UInt8 → Bool) (lo hi : Nat) : Option Nat → Prop
  | none => NoHit m p lo hi
  | some x => lo ≤ x ∧ x < hi ∧ p (m.byteAt x) = true ∧ NoHit m p (x + 1) hi

theorem NoHit.union {m : Mem} {p : UInt8 → Bool} {lo mid mid' hi : Nat}
    (h1 : NoHit m p lo mid) (h2 : NoHit m p mid' hi) (h : mid' ≤ mid) : NoHit m p lo hi := by
  intro a ha hb
  by_cases hc : a < mid
  · exact h1 a ha hc
  · exact h2 a (Nat.le_trans h (Nat.le_of_not_lt hc)) hb

theorem NoHit.empty (m : Mem) (p : UInt8 → Bool) {lo hi : Nat} (h : hi ≤ lo) : NoHit m p lo hi :=
  fun _ ha hb => absurd (Nat.lt_of_lt_of_le hb h) (Nat.not_lt.mpr ha)

theorem noHit_single {m : Mem} {p : UInt8 → Bool} {a : Nat} (h : ¬ p (m.byteAt a) = true) :
    NoHit m p a (a + 1) := by
  intro x hx hlt
  rw [Nat.le_antisymm (Nat.le_of_lt_succ hlt) hx]
  exact Bool.eq_false_iff.2 h

theorem NoHit.mono {m : Mem} {p : UInt8 → Bool} {lo hi lo' hi' : Nat}
    (h1 : NoHit m p lo hi) (hl : lo ≤ lo') (hh : hi' ≤ hi) : NoHit m p lo' hi' :=
  fun a ha hb => h1 a (Nat.le_trans hl ha) (Nat.lt_of_lt_of_le hb hh)

theorem NoHit.of_offsets {m : Mem} {p : UInt8 → Bool} {a lo hi : Nat}
    (h : ∀ j, lo ≤ j → a + j < hi → p (m.byteAt (a + j)) = false) : NoHit m p (a + lo) hi := by
  intro x hx hlt
  obtain ⟨j, rfl⟩ := Nat.le.dest (Nat.le_trans (Nat.le_add_right a lo) hx)
  exact h j (Nat.le_of_add_le_add_left hx) hlt

theorem FirstRes.extend {m : Mem} {p : UInt8 → Bool} {lo mid mid' hi hi' x : Nat}
    (h1 : FirstRes m p mid' hi (some x)) (h2 : NoHit m p lo mid) (h : mid' ≤ mid)
    (hl : lo ≤ mid') (hh : hi ≤ hi') : FirstRes m p lo hi' (some x) :=
  ⟨Nat.le_trans hl h1.1, Nat.lt_of_lt_of_le h1.2.1 hh, h1.2.2.1, h2.union h1.2.2.2 h⟩

theorem LastRes.extend {m : Mem} {p : UInt8 → Bool} {lo lo' mid mid' hi x : Nat}
    (h1 : LastRes m p lo mid (some x)) (h2 : NoHit m p mid' hi) (h : mid' ≤ mid)
    (hh : mid ≤ hi) (hl : lo' ≤ lo) : LastRes m p lo' hi (some x) :=
  ⟨Nat.le_trans hl h1.1, Nat.lt_of_lt_of_le h1.2.1 hh, h1.2.2.1, h1.2.2.2.union h2 h⟩

theorem FirstRes.prepend {m : Mem} {p : UInt8 → Bool} {lo mid hi : Nat} {r : Option Nat}
    (h1 : FirstRes m p mid hi r) (h2 : NoHit m p lo mid) (hl : lo ≤ mid) :
    FirstRes m p lo hi r := by
  cases r with
  | none => exact NoHit.union h2 h1 (Nat.le_refl _)
  | some x => exact FirstRes.extend h1 h2 (Nat.le_refl _) hl (Nat.le_refl _)

theorem LastRes.append {m : Mem} {p : UInt8 → Bool} {lo mid hi : Nat} {r : Option Nat}
    (h1 : LastRes m p lo mid r) (h2 : NoHit m p mid hi) (hh : mid ≤ hi) :
    LastRes m p lo hi r := by
  cases r with
  | none => exact NoHit.union h1 h2 (Nat.le_refl _)
  | some x => exact LastRes.extend h1 h2 (Nat.le_refl _) hh (Nat.le_refl _)

theorem FirstRes.ge {m : Mem} {p : UInt8 → Bool} {lo hi cur x : Nat}
    (h : FirstRes m p lo hi (some x)) (hno : NoHit m p lo cur) : cur ≤ x :=
  Nat.le_of_not_lt fun hx => Bool.false_ne_true ((hno x h.1 hx).symm.trans h.2.2.1)

theorem LastRes.lt {m : Mem} {p : UInt8 → Bool} {lo hi cur x : Nat}
    (h : LastRes m p lo hi (some x)) (hno : NoHit m p cur hi) : x < cur :=
  Nat.lt_of_not_le fun hx => Bool.false_ne_true ((hno x hx h.2.1).symm.trans h.2.2.1)

/-! ### how far a search looked

The step bounds of the loops have the form "steps so far + where I am ≤ steps at the start +
where the search ends": each byte, word, chunk or block costs one step and covers at least one
byte. -/

/-- one past the last address a forward search looked at -/
def upto (r : Option Nat) (end_ : Nat) : Nat :=
  match r with
  | some p => p + 1
  | none => end_

/-- the lowest address a reverse search looked at -/
def downto (r : Option Nat) (start : Nat) : Nat :=
  match r with
  | some p => p
  | none => start

/-- What a `find_raw` on `[start, end_)` ensures of a run from `c`: the result is the first needle
byte, found in at most `K` steps more than the bytes up to it.  The bound is claimed for
`start ≤ end_` only: on a reversed window the routines return `none` at once, and
`upto none end_ = end_` lies left of `start`. -/
abbrev FwdPost (K : Nat) (m : Mem) (p : UInt8 → Bool) (start end_ : Nat) (c : Ctr) (r : Option Nat)
    (c' : Ctr) : Prop :=
  FirstRes m p start end_ r ∧ (start ≤ end_ → c'.steps + start ≤ c.steps + (upto r end_ + K))

/-- the same for `rfind_raw`: the last needle byte, the bytes down to it -/
abbrev RevPost (K : Nat) (m : Mem) (p : UInt8 → Bool) (start end_ : Nat) (c : Ctr) (r : Option Nat)
    (c' : Ctr) : Prop :=
  LastRes m p start end_ r ∧ (start ≤ end_ → c'.steps + downto r start ≤ c.steps + (end_ + K))

theorem FwdPost.allow {K K' : Nat} {m : Mem} {p : UInt8 → Bool} {start end_ : Nat} {c c' : Ctr}
    {r : Option Nat} (hK : K ≤ K') (h : FwdPost K m p start end_ c r c') :
    FwdPost K' m p start end_ c r c' :=
  ⟨h.1, fun hse => Nat.le_trans (h.2 hse) (Nat.add_le_add_left (Nat.add_le_add_left hK _) _)⟩

/-- one step for a stretch `[x, y)` that holds at least one byte -/
theorem step_le {s s' x y : Nat} (hst : s' = s + 1) (h : x < y) : s' + x ≤ s + y := by
  omega

/-! ### relation to the naive specifications

`FirstRes`/`LastRes` are `IsLeast`/`IsGreatest` of addresses, so they determine the result, and the
naive specification has the property. -/

theorem firstRes_iff_isLeast {m : Mem} {p : UInt8 → Bool} {lo hi : Nat} {r : Option Nat} :
    FirstRes m p lo hi r ↔ IsLeast (fun a => p (m.byteAt a) = true) lo hi r := by
  cases r <;> simp only [FirstRes, NoHit, IsLeast, Bool.not_eq_true]

theorem lastRes_iff_isGreatest {m : Mem} {p : UInt8 → Bool} {lo hi : Nat} {r : Option Nat} :
    LastRes m p lo hi r ↔ IsGreatest (fun a => p (m.byteAt a) = true) lo hi r := by
  cases r <;> simp only [LastRes, NoHit, IsGreatest, Bool.not_eq_true, Nat.add_one_le_iff]

theorem FirstRes.unique {m : Mem} {p : UInt8 → Bool} {lo hi : Nat} {r r' : Option Nat}
    (h : FirstRes m p lo hi r) (h' : FirstRes m p lo hi r') : r = r' :=
  (firstRes_iff_isLeast.mp h).unique (firstRes_iff_isLeast.mp h')

theorem LastRes.unique {m : Mem} {p : UInt8 → Bool} {lo hi : Nat} {r r' : Option Nat}
    (h : LastRes m p lo hi r) (h' : LastRes m p lo hi r') : r = r' :=
  (lastRes_iff_isGreatest.mp h).unique (lastRes_iff_isGreatest.mp h')

/-- the two cases of `FirstRes` as statements about an unknown result -/
theorem FirstRes.cases {m : Mem} {p : UInt8 → Bool} {lo hi : Nat} {r : Option Nat}
    (h : FirstRes m p lo hi r) :
    (r = none ↔ NoHit m p lo hi) ∧ ∀ x, r = some x → FirstRes m p lo hi (some x) :=
  ⟨⟨fun e => (e ▸ h : FirstRes m p lo hi none), fun hno => h.unique hno⟩,
    fun _ e => e ▸ h⟩

theorem LastRes.cases {m : Mem} {p : UInt8 → Bool} {lo hi : Nat} {r : Option Nat}
    (h : LastRes m p lo hi r) :
    (r = none ↔ NoHit m p lo hi) ∧ ∀ x, r = some x → LastRes m p lo hi (some x) :=
  ⟨⟨fun e => (e ▸ h : LastRes m p lo hi none), fun hno => h.unique hno⟩,
    fun _ e => e ▸ h⟩

theorem firstRes_spec (m : Mem) (p : UInt8 → Bool) (lo hi : Nat) :
    FirstRes m p lo hi ((Spec.firstIdx p (m.window lo (hi - lo))).map (lo + ·)) := by
  have hw := Spec.firstIdx_pointwise (p := p) (get := fun i => m.byteAt (lo + i))
    (Mem.window_getElem m lo (hi - lo))
  rw [Mem.window_length] at hw
  cases h : Spec.firstIdx p (m.window lo (hi - lo)) with
  | none =>
    exact NoHit.of_offsets (lo := 0) fun j _ hj => hw.1.mp h j (Nat.lt_sub_iff_add_lt'.mpr hj)
  | some i =>
    obtain ⟨hl, hp, hn⟩ := hw.2 i h
    exact ⟨Nat.le_add_right _ _, Nat.add_lt_of_lt_sub' hl, hp,
      NoHit.of_offsets (lo := 0) fun j _ hj => hn j (Nat.lt_of_add_lt_add_left hj)⟩

theorem lastRes_spec (m : Mem) (p : UInt8 → Bool) (lo hi : Nat) :
    LastRes m p lo hi ((Spec.lastIdx p (m.window lo (hi - lo))).map (lo + ·)) := by
  have hw := Spec.lastIdx_pointwise (p := p) (get := fun i => m.byteAt (lo + i))
    (Mem.window_getElem m lo (hi - lo))
  rw [Mem.window_length] at hw
  cases h : Spec.lastIdx p (m.window lo (hi - lo)) with
  | none =>
    exact NoHit.of_offsets (lo := 0) fun j _ hj => hw.1.mp h j (Nat.lt_sub_iff_add_lt'.mpr hj)
  | some i =>
    obtain ⟨hl, hp, hn⟩ := hw.2 i h
    exact ⟨Nat.le_add_right _ _, Nat.add_lt_of_lt_sub' hl, hp,
      NoHit.of_offsets (lo := i + 1) fun j hij hj => hn j hij (Nat.lt_sub_iff_add_lt'.mpr hj)⟩

theorem FirstRes.eq_spec {m : Mem} {p : UInt8 → Bool} {lo hi : Nat} {r : Option Nat}
    (h : FirstRes m p lo hi r) :
    r = (Spec.firstIdx p (m.window lo (hi - lo))).map (lo + ·) :=
  h.unique (firstRes_spec m p lo hi)

theorem LastRes.eq_spec {m : Mem} {p : UInt8 → Bool} {lo hi : Nat} {r : Option Nat}
    (h : LastRes m p lo hi r) :
    r = (Spec.lastIdx p (m.window lo (hi - lo))).map (lo + ·) :=
  h.unique (lastRes_spec m p lo hi)

theorem FirstRes.run_spec {f : M (Option Nat)} {c : Ctr} {m : Mem} {p : UInt8 → Bool}
    {lo hi : Nat} {Q : Option Nat → Ctr → Prop}
    (h : Holds f c fun r c' => FirstRes m p lo hi r ∧ Q r c') :
    ∃ c', f c = .ok ((Spec.firstIdx p (m.window lo (hi - lo))).map (lo + ·)) c' :=
  let ⟨_, c', hrun, hres, _⟩ := h
  ⟨c', hres.eq_spec ▸ hrun⟩

theorem LastRes.run_spec {f : M (Option Nat)} {c : Ctr} {m : Mem} {p : UInt8 → Bool}
    {lo hi : Nat} {Q : Option Nat → Ctr → Prop}
    (h : Holds f c fun r c' => LastRes m p lo hi r ∧ Q r c') :
    ∃ c', f c = .ok ((Spec.lastIdx p (m.window lo (hi - lo))).map (lo + ·)) c' :=
  let ⟨_, c', hrun, hres, _⟩ := h
  ⟨c', hres.eq_spec ▸ hrun⟩

/-- number of bytes satisfying `p` at addresses `[lo, hi)` -/
def cnt (m : Mem) (p : UInt8 → Bool) (lo hi : Nat) : Nat :=
  Spec.countP p (m.window lo (hi - lo))

theorem cnt_split (m : Mem) (p : UInt8 → Bool) {lo mid hi : Nat} (h1 : lo ≤ mid) (h2 : mid ≤ hi) :
    cnt m p lo hi = cnt m p lo mid + cnt m p mid hi := by
  obtain ⟨a, rfl⟩ := Nat.le.dest h1
  obtain ⟨b, rfl⟩ := Nat.le.dest h2
  unfold cnt Spec.countP
  rw [Nat.add_sub_cancel_left, Nat.add_sub_cancel_left, Nat.add_assoc, Nat.add_sub_cancel_left,
    Mem.window_add, List.countP_append]

theorem cnt_self (m : Mem) (p : UInt8 → Bool) (lo : Nat) : cnt m p lo lo = 0 := by
  simp [cnt, Spec.countP, Mem.window]

theorem cnt_one (m : Mem) (p : UInt8 → Bool) (lo : Nat) :
    cnt m p lo (lo + 1) = if p (m.byteAt lo) then 1 else 0 := by
  simp [cnt, Spec.countP, Mem.window_one, List.countP_cons]

/-! ### the byte-by-byte helpers of `arch::generic::memchr` -/

theorem fwdByteLoop_spec (m : Mem) (p : UInt8 → Bool) (end_ ptr : Nat) (c : Ctr)
    (hb : m.base ≤ ptr) (hpe : ptr ≤ end_) (he : end_ ≤ m.base + m.bytes.size) :
    Holds (fwdByteLoop m p end_ ptr) c fun r c' =>
      FirstRes m p ptr end_ r ∧ c'.steps + ptr ≤ c.steps + upto r end_ := by
  fun_induction fwdByteLoop m p end_ ptr generalizing c with
  | case1 ptr h ih =>
    apply Holds.tick_bind
    apply Holds.read_bind hb (Nat.lt_of_lt_of_le h he)
    refine Holds.ite (fun hp => ?_) (fun hp => ?_)
    · exact Holds.pure ⟨⟨Nat.le_refl _, h, hp, NoHit.empty m p (Nat.le_refl _)⟩,
        step_le rfl (Nat.lt_succ_self _)⟩
    · apply Holds.padd_bind hb (Nat.le_trans h he)
      apply (ih _ (Nat.le_succ_of_le hb) h).mono
      intro r _ ⟨hres, hc⟩
      exact ⟨hres.prepend (noHit_single hp) (Nat.le_succ _),
        budget_trans (step_le rfl (Nat.lt_succ_self _)) hc⟩
  | case2 ptr h =>
    exact Holds.pure ⟨NoHit.empty m p (Nat.le_of_not_lt h), Nat.add_le_add_left hpe _⟩

theorem fwdByteByByte_spec (m : Mem) (p : UInt8 → Bool) (start end_ : Nat) (c : Ctr)
    (hb : m.base ≤ start) (hpe : start ≤ end_) (he : end_ ≤ m.base + m.bytes.size) :
    Holds (fwdByteByByte m p start end_) c fun r c' =>
      FirstRes m p start end_ r ∧ c'.steps + start ≤ c.steps + upto r end_ :=
  Holds.dbgAssert_bind' hpe (fwdByteLoop_spec m p end_ start c hb hpe he)

theorem revByteLoop_spec (m : Mem) (p : UInt8 → Bool) (start ptr : Nat) (c : Ctr)
    (hb : m.base ≤ start) (hsp : start ≤ ptr) (he : ptr ≤ m.base + m.bytes.size) :
    Holds (revByteLoop m p start ptr) c fun r c' =>
      LastRes m p start ptr r ∧ c'.steps + downto r start ≤ c.steps + ptr := by
  fun_induction revByteLoop m p start ptr generalizing c with
  | case1 ptr h ih =>
    obtain ⟨q, rfl⟩ : ∃ q, ptr = q + 1 := ⟨ptr - 1, (Nat.sub_add_cancel (Nat.zero_lt_of_lt h)).symm⟩
    have hsq : start ≤ q := Nat.le_of_lt_succ h
    have hbq : m.base ≤ q := Nat.le_trans hb hsq
    rw [Nat.add_sub_cancel] at ih
    apply Holds.tick_bind
    apply Holds.psub_bind (Nat.succ_le_succ hbq) he
    rw [Nat.add_sub_cancel]
    apply Holds.read_bind hbq he
    refine Holds.ite (fun hp => ?_) (fun hp => ?_)
    · exact Holds.pure ⟨⟨hsq, Nat.lt_succ_self _, hp, NoHit.empty m p (Nat.le_refl _)⟩,
        step_le rfl (Nat.lt_succ_self _)⟩
    · apply (ih _ hsq (Nat.le_of_lt he)).mono
      intro r _ ⟨hres, hc⟩
      exact ⟨hres.append (noHit_single hp) (Nat.le_succ _),
        Nat.le_trans hc (step_le rfl (Nat.lt_succ_self _))⟩
  | case2 ptr h =>
    exact Holds.pure ⟨NoHit.empty m p (Nat.le_of_not_lt h), Nat.add_le_add_left hsp _⟩

theorem revByteByByte_spec (m : Mem) (p : UInt8 → Bool) (start end_ : Nat) (c : Ctr)
    (hb : m.base ≤ start) (hpe : start ≤ end_) (he : end_ ≤ m.base + m.bytes.size) :
    Holds (revByteByByte m p start end_) c fun r c' =>
      LastRes m p start end_ r ∧ c'.steps + downto r start ≤ c.steps + end_ :=
  Holds.dbgAssert_bind' hpe (revByteLoop_spec m p start end_ c hb hpe he)

theorem countByteLoop_spec {m : Mem} (p : UInt8 → Bool) {end_ ptr : Nat} (count : Nat) {c : Ctr}
    (hb : m.base ≤ ptr) (hpe : ptr ≤ end_) (he : end_ ≤ m.base + m.bytes.size) :
    Holds (countByteLoop m p end_ ptr count) c (fun r _ => r = count + cnt m p ptr end_) := by
  fun_induction countByteLoop m p end_ ptr count generalizing c with
  | case1 ptr count h ih =>
    apply Holds.tick_bind
    apply Holds.read_bind hb (Nat.lt_of_lt_of_le h he)
    apply Holds.padd_bind hb (Nat.le_trans h he)
    apply Holds.mono (ih (m.byteAt ptr) (Nat.le_trans hb (Nat.le_add_right _ _)) h)
    rintro r _ rfl
    rw [cnt_split m p (Nat.le_add_right ptr 1) h, cnt_one, ← Nat.add_assoc]
    congr 1
    split <;> rfl
  | case2 ptr count h =>
    obtain rfl : ptr = end_ := Nat.le_antisymm hpe (Nat.le_of_not_lt h)
    exact Holds.pure (by rw [cnt_self]; rfl)

theorem countByteByByte_spec (m : Mem) (p : UInt8 → Bool) (start end_ : Nat) (c : Ctr)
    (hb : m.base ≤ start) (hpe : start ≤ end_) (he : end_ ≤ m.base + m.bytes.size) :
    Holds (countByteByByte m p start end_) c (fun r _ => r = cnt m p start end_) := by
  unfold countByteByByte
  apply Holds.dbgAssert_bind' hpe
  apply Holds.mono (countByteLoop_spec p 0 hb hpe he)
  rintro r _ rfl
  exact Nat.zero_add _

end Memchr.Generic
