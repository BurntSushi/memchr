/-
C01.raw / C02.raw / C07.raw: every backend's `find_raw` / `rfind_raw` / `count_raw` equals the
naive specification on EVERY window `[start, end)` of every memory region, including
`start >= end` (result `none` / `0`) and windows shorter than a vector.

C09.agree: the slice forms `memchr cfg ..` return the same specified value for every build /
CPU configuration.

The searches are walked once, for the value and the steps (`rawFind_fwd_run`, `rawFind_rev_run` on
an address window, `sliceFind_fwd_run`, `sliceFind_rev_run` on a slice); the value-only statements are
their projections, and `Proofs/CostMemchr.lean` states C13 for the public routines from them.  The
SWAR backend enters through `Swar.One/Multi.findRaw_spec`, `rfindRaw_spec` and
`Swar.One.countRaw_correct`.
-/
import MemchrModel.Model.MemchrApi
import MemchrModel.Model.Pair
import MemchrModel.Proofs.MemchrGeneric
import MemchrModel.Proofs.Sensible
import MemchrModel.Proofs.Neon
import MemchrModel.Proofs.Swar

namespace Memchr.Api

open Memchr.Generic

/-! ### specifications on an address window -/

/-- address of the first needle byte in `[start, end_)` -/
def specFirst (ns : Needles) (m : Mem) (start end_ : Nat) : Option Nat :=
  (Spec.firstIdx ns.confirm (m.window start (end_ - start))).map (start + ·)

/-- address of the last needle byte in `[start, end_)` -/
def specLast (ns : Needles) (m : Mem) (start end_ : Nat) : Option Nat :=
  (Spec.lastIdx ns.confirm (m.window start (end_ - start))).map (start + ·)

/-- number of bytes equal to `n1` in `[start, end_)` -/
def specCount (n1 : UInt8) (m : Mem) (start end_ : Nat) : Nat :=
  Spec.countP (· == n1) (m.window start (end_ - start))

def specFind (ns : Needles) (rev : Bool) (m : Mem) (start end_ : Nat) : Option Nat :=
  if rev then specLast ns m start end_ else specFirst ns m start end_

theorem specFirst_empty (ns : Needles) (m : Mem) {start end_ : Nat} (h : end_ ≤ start) :
    specFirst ns m start end_ = none := by
  rw [specFirst, Nat.sub_eq_zero_of_le h]
  rfl

theorem specLast_empty (ns : Needles) (m : Mem) {start end_ : Nat} (h : end_ ≤ start) :
    specLast ns m start end_ = none := by
  rw [specLast, Nat.sub_eq_zero_of_le h]
  rfl

theorem specCount_empty (n1 : UInt8) (m : Mem) {start end_ : Nat} (h : end_ ≤ start) :
    specCount n1 m start end_ = 0 := by
  rw [specCount, Nat.sub_eq_zero_of_le h]
  rfl

/-! ### 1a. the wrappers -/

/-- What all six wrappers share: an empty window is answered without touching memory, otherwise
the routine is chosen by the length `d` of the window. -/
theorem byLength_run {α : Type} {site : String} {m : Mem} {start end_ : Nat} {e : α}
    {k : Nat → M α} {c : Ctr} {Q : α → Ctr → Prop} (hs : m.base ≤ start)
    (he : end_ ≤ m.base + m.bytes.size) (hempty : end_ ≤ start → Q e c)
    (hk : ∀ d, start + d = end_ → Holds (k d) c Q) :
    Holds (if start ≥ end_ then pure e else m.distance site end_ start >>= k) c Q :=
  Holds.ite (fun hge => Holds.pure (hempty hge)) fun hge =>
    Holds.distance_bind' hs (Nat.le_of_not_le hge) he fun d hd => hk d ((Nat.add_comm _ _).trans hd)

theorem vec_fits {start end_ d B : Nat} (hd : start + d = end_) (h : ¬ d < B) :
    start + B ≤ end_ :=
  hd ▸ Nat.add_le_add_left (Nat.le_of_not_lt h) start

/-- The byte loops and the vector routines are run on `start ≤ end_` only, so their bounds come
unguarded; forward they use none of the allowance, in reverse at most one step of it. -/
theorem fwd_allow {f : M (Option Nat)} {c : Ctr} {m : Mem} {p : UInt8 → Bool} {start end_ : Nat}
    (h : Holds f c fun r c' =>
      FirstRes m p start end_ r ∧ c'.steps + start ≤ c.steps + upto r end_) :
    Holds f c (FwdPost 2 m p start end_ c) :=
  h.mono fun _ _ ⟨hres, hc⟩ => ⟨hres, fun _ => by omega⟩

theorem rev_allow {f : M (Option Nat)} {c : Ctr} {m : Mem} {p : UInt8 → Bool} {start end_ : Nat}
    (K : Nat) (hK : K ≤ 2) (h : Holds f c fun r c' =>
      LastRes m p start end_ r ∧ c'.steps + downto r start ≤ c.steps + end_ + K) :
    Holds f c (RevPost 2 m p start end_ c) :=
  h.mono fun _ _ ⟨hres, hc⟩ => ⟨hres, fun _ => by omega⟩

/-- an empty or reversed window: no hit, no step taken -/
theorem fwd_empty (m : Mem) (p : UInt8 → Bool) {start end_ : Nat} (c : Ctr) (h : end_ ≤ start) :
    FwdPost 2 m p start end_ c none c :=
  ⟨NoHit.empty m p h, fun h' => Nat.add_le_add_left (Nat.le_add_right_of_le h') _⟩

theorem rev_empty (m : Mem) (p : UInt8 → Bool) {start end_ : Nat} (c : Ctr) (h : end_ ≤ start) :
    RevPost 2 m p start end_ c none c :=
  ⟨NoHit.empty m p h, fun h' => Nat.add_le_add_left (Nat.le_add_right_of_le h') _⟩

theorem wrapFind_run (V : VecImpl) (L : Lawful V) (ns : Needles) (m : Mem)
    (start end_ : Nat) (c : Ctr) (hs : m.base ≤ start) (he : end_ ≤ m.base + m.bytes.size) :
    Holds (wrapFind V ns m start end_) c (FwdPost 2 m ns.confirm start end_ c) := by
  apply byLength_run hs he (fwd_empty m _ c)
  intro d hd
  exact Holds.ite
    (fun _ => fwd_allow (fwdByteByByte_spec m _ start end_ c hs (Nat.le.intro hd) he))
    (fun h => fwd_allow (findRaw_spec L ns _ _ m start end_ c hs he (vec_fits hd h)))

theorem wrapRfind_run (V : VecImpl) (L : Lawful V) (ns : Needles) (m : Mem)
    (start end_ : Nat) (c : Ctr) (hs : m.base ≤ start) (he : end_ ≤ m.base + m.bytes.size) :
    Holds (wrapRfind V ns m start end_) c (RevPost 2 m ns.confirm start end_ c) := by
  apply byLength_run hs he (rev_empty m _ c)
  intro d hd
  exact Holds.ite
    (fun _ => rev_allow 0 (by decide) (revByteByByte_spec m _ start end_ c hs (Nat.le.intro hd) he))
    (fun h => rev_allow 1 (by decide) (rfindRaw_spec L ns _ _ m start end_ c hs he (vec_fits hd h)))

theorem wrapCount_run (V : VecImpl) (L : Lawful V) (n1 : UInt8) (m : Mem)
    (start end_ : Nat) (c : Ctr) (hs : m.base ≤ start) (he : end_ ≤ m.base + m.bytes.size) :
    Holds (wrapCount V n1 m start end_) c fun r _ => r = specCount n1 m start end_ := by
  apply byLength_run hs he fun h => (specCount_empty n1 m h).symm
  intro d hd
  exact Holds.ite (fun _ => countByteByByte_spec m _ start end_ c hs (Nat.le.intro hd) he)
    (fun h => countRaw_spec L n1 _ _ m start end_ c hs he (vec_fits hd h))

/-! ### 1b. AVX2 wrappers: byte loop below 16 bytes, SSE2 below 32 -/

theorem avx2Find_run (ns : Needles) (m : Mem)
    (start end_ : Nat) (c : Ctr) (hs : m.base ≤ start) (he : end_ ≤ m.base + m.bytes.size) :
    Holds (avx2Find ns m start end_) c (FwdPost 2 m ns.confirm start end_ c) := by
  apply byLength_run hs he (fwd_empty m _ c)
  intro d hd
  exact Holds.ite
    (fun _ => Holds.ite
      (fun _ => fwd_allow (fwdByteByByte_spec m _ start end_ c hs (Nat.le.intro hd) he))
      (fun h => fwd_allow
        (findRaw_spec Sensible.lawful_sse2 ns _ _ m start end_ c hs he (vec_fits hd h))))
    (fun h => fwd_allow
      (findRaw_spec Sensible.lawful_avx2 ns _ _ m start end_ c hs he (vec_fits hd h)))

theorem avx2Rfind_run (ns : Needles) (m : Mem)
    (start end_ : Nat) (c : Ctr) (hs : m.base ≤ start) (he : end_ ≤ m.base + m.bytes.size) :
    Holds (avx2Rfind ns m start end_) c (RevPost 2 m ns.confirm start end_ c) := by
  apply byLength_run hs he (rev_empty m _ c)
  intro d hd
  exact Holds.ite
    (fun _ => Holds.ite
      (fun _ => rev_allow 0 (by decide)
        (revByteByByte_spec m _ start end_ c hs (Nat.le.intro hd) he))
      (fun h => rev_allow 1 (by decide)
        (rfindRaw_spec Sensible.lawful_sse2 ns _ _ m start end_ c hs he (vec_fits hd h))))
    (fun h => rev_allow 1 (by decide)
      (rfindRaw_spec Sensible.lawful_avx2 ns _ _ m start end_ c hs he (vec_fits hd h)))

theorem avx2Count_run (n1 : UInt8) (m : Mem)
    (start end_ : Nat) (c : Ctr) (hs : m.base ≤ start) (he : end_ ≤ m.base + m.bytes.size) :
    Holds (avx2Count n1 m start end_) c fun r _ => r = specCount n1 m start end_ := by
  apply byLength_run hs he fun h => (specCount_empty n1 m h).symm
  intro d hd
  exact Holds.ite
    (fun _ => Holds.ite (fun _ => countByteByByte_spec m _ start end_ c hs (Nat.le.intro hd) he)
      (fun h => countRaw_spec Sensible.lawful_sse2 n1 _ _ m start end_ c hs he (vec_fits hd h)))
    (fun h => countRaw_spec Sensible.lawful_avx2 n1 _ _ m start end_ c hs he (vec_fits hd h))

/-! ### 1c. every backend -/

theorem swarFind_fwd_run (ns : Needles) (m : Mem) (start end_ : Nat) (c : Ctr)
    (hb : start < end_ → m.base ≤ start ∧ end_ ≤ m.base + m.bytes.size) :
    Holds (swarFind ns false m start end_) c (FwdPost 2 m ns.confirm start end_ c) := by
  obtain ⟨n1, rest⟩ := ns
  cases rest with
  | nil =>
    exact (Swar.One.findRaw_spec n1 m start end_ c hb).mono fun _ _ h => h.allow (by decide)
  | cons n2 rest =>
    exact (Swar.Multi.findRaw_spec _ m start end_ c hb).mono fun _ _ h => h.allow (by decide)

theorem swarFind_rev_run (ns : Needles) (m : Mem) (start end_ : Nat) (c : Ctr)
    (hb : start < end_ → m.base ≤ start ∧ end_ ≤ m.base + m.bytes.size) :
    Holds (swarFind ns true m start end_) c (RevPost 2 m ns.confirm start end_ c) := by
  obtain ⟨n1, rest⟩ := ns
  cases rest with
  | nil => exact Swar.One.rfindRaw_spec n1 m start end_ c hb
  | cons n2 rest => exact Swar.Multi.rfindRaw_spec _ m start end_ c hb

/-- Every backend's `find_raw`, for every window inside the region (also empty, reversed and
sub-vector windows): the first needle byte, after at most two steps more than bytes looked at. -/
theorem rawFind_fwd_run (b : Backend) (ns : Needles) (m : Mem) (start end_ : Nat) (c : Ctr)
    (hs : m.base ≤ start) (he : end_ ≤ m.base + m.bytes.size) :
    Holds (rawFind b ns false m start end_) c (FwdPost 2 m ns.confirm start end_ c) := by
  cases b with
  | swar => exact swarFind_fwd_run ns m start end_ c fun _ => ⟨hs, he⟩
  | avx2 => exact avx2Find_run ns m start end_ c hs he
  | sse2 => exact wrapFind_run _ Sensible.lawful_sse2 ns m start end_ c hs he
  | neon => exact wrapFind_run _ Neon.lawful ns m start end_ c hs he
  | simd128 => exact wrapFind_run _ Sensible.lawful_simd128 ns m start end_ c hs he

/-- Every backend's `rfind_raw`, likewise. -/
theorem rawFind_rev_run (b : Backend) (ns : Needles) (m : Mem) (start end_ : Nat) (c : Ctr)
    (hs : m.base ≤ start) (he : end_ ≤ m.base + m.bytes.size) :
    Holds (rawFind b ns true m start end_) c (RevPost 2 m ns.confirm start end_ c) := by
  cases b with
  | swar => exact swarFind_rev_run ns m start end_ c fun _ => ⟨hs, he⟩
  | avx2 => exact avx2Rfind_run ns m start end_ c hs he
  | sse2 => exact wrapRfind_run _ Sensible.lawful_sse2 ns m start end_ c hs he
  | neon => exact wrapRfind_run _ Neon.lawful ns m start end_ c hs he
  | simd128 => exact wrapRfind_run _ Sensible.lawful_simd128 ns m start end_ c hs he

/-- C01.raw (`rev = false`) and C02.raw (`rev = true`): every backend's `find_raw` /
`rfind_raw` returns exactly the first / last needle position of the window, without fault, for
every window inside the region (also empty, reversed and sub-vector windows). -/
theorem rawFind_correct (b : Backend) (ns : Needles) (rev : Bool) (m : Mem)
    (start end_ : Nat) (c : Ctr) (hs : m.base ≤ start) (he : end_ ≤ m.base + m.bytes.size) :
    ∃ c', rawFind b ns rev m start end_ c = .ok (specFind ns rev m start end_) c' := by
  cases rev with
  | false => exact FirstRes.run_spec (rawFind_fwd_run b ns m start end_ c hs he)
  | true => exact LastRes.run_spec (rawFind_rev_run b ns m start end_ c hs he)

/-- C07.raw -/
theorem rawCount_correct (b : Backend) (n1 : UInt8) (m : Mem)
    (start end_ : Nat) (c : Ctr) (hs : m.base ≤ start) (he : end_ ≤ m.base + m.bytes.size) :
    ∃ c', rawCount b n1 m start end_ c = .ok (specCount n1 m start end_) c' := by
  cases b with
  | swar => exact Swar.One.countRaw_correct n1 m start end_ c fun _ => ⟨hs, he⟩
  | avx2 => exact Holds.run_val (avx2Count_run n1 m start end_ c hs he)
  | sse2 => exact Holds.run_val (wrapCount_run _ Sensible.lawful_sse2 n1 m start end_ c hs he)
  | neon => exact Holds.run_val (wrapCount_run _ Neon.lawful n1 m start end_ c hs he)
  | simd128 => exact Holds.run_val (wrapCount_run _ Sensible.lawful_simd128 n1 m start end_ c hs he)

/-- a reversed window needs no hypothesis at all: every routine starts with
`if start >= end { return None; }`, nothing is dereferenced -/
theorem rawFind_reversed (b : Backend) (ns : Needles) (rev : Bool) (m : Mem) (start end_ : Nat)
    (c : Ctr) (h : end_ ≤ start) : rawFind b ns rev m start end_ c = .ok none c := by
  cases b with
  | swar =>
    obtain ⟨n1, rest⟩ := ns
    cases rest <;> cases rev <;> exact M.ite_pure_run h none _ c
  | _ => cases rev <;> exact M.ite_pure_run h none _ c

/-- a reversed or empty window: `count_raw` returns 0 without touching memory -/
theorem rawCount_reversed (b : Backend) (n1 : UInt8) (m : Mem) (start end_ : Nat) (c : Ctr)
    (h : end_ ≤ start) : rawCount b n1 m start end_ c = .ok 0 c := by
  cases b <;> exact M.ite_pure_run h 0 _ c

/-- hypotheses are satisfiable: a 40-byte region at an odd base address, a 5-byte window -/
example : ∃ (m : Mem) (start end_ : Nat), m.base ≤ start ∧ end_ ≤ m.base + m.bytes.size ∧
    start < end_ :=
  ⟨⟨0, 1001, Array.replicate 40 0⟩, 1003, 1008, by decide, by simp, by decide⟩

/-! ### 1d. dispatch -/

/-- The `cfg` chain of `src/memchr.rs` with the `debug_assert!(is_available())` of `defraw!`,
for any family `g` of per-backend routines: it runs the routine of the backend chosen by `select`
and the assertion never fires. -/
theorem dispatch_eq_select {α : Type} (cfg : Cfg) (g : Backend → M α) :
    (match cfg.arch with
      | .x86_64 => g (x86Detect cfg)
      | .wasm32simd128 => do
        dbgAssert "defraw: $ty::is_available()" (simd128Available cfg)
        g .simd128
      | .aarch64 =>
        if cfg.ctNeon then do
          dbgAssert "defraw: $ty::is_available()" (neonAvailable cfg)
          g .neon
        else g .swar
      | .other => g .swar) = g (select cfg) := by
  unfold select
  cases harch : cfg.arch with
  | x86_64 => rfl
  | wasm32simd128 =>
    have : simd128Available cfg = true := by simp [simd128Available, harch]
    simp only [this, dbgAssert_true]
    rfl
  | aarch64 =>
    by_cases hn : cfg.ctNeon = true
    · have : neonAvailable cfg = true := by simp [neonAvailable, hn]
      simp only [hn, if_true, this, dbgAssert_true]
      rfl
    · simp only [hn]
      rfl
  | other => rfl

theorem memchrRaw_eq_select (cfg : Cfg) (ns : Needles) (rev : Bool) (m : Mem) (start end_ : Nat) :
    memchrRaw cfg ns rev m start end_ = rawFind (select cfg) ns rev m start end_ :=
  dispatch_eq_select cfg (fun b => rawFind b ns rev m start end_)

theorem countRaw_eq_select (cfg : Cfg) (n1 : UInt8) (m : Mem) (start end_ : Nat) :
    countRaw cfg n1 m start end_ = rawCount (select cfg) n1 m start end_ :=
  dispatch_eq_select cfg (fun b => rawCount b n1 m start end_)

/-- the public slice routine of a configuration is the slice routine of the selected backend -/
theorem memchr_eq_select (cfg : Cfg) (ns : Needles) (rev : Bool) (hay : Slice) :
    memchr cfg ns rev hay = sliceFind (select cfg) ns rev hay :=
  congrArg (searchSliceWithRaw hay)
    (funext fun s => funext fun e => memchrRaw_eq_select cfg ns rev hay.mem s e)

/-- `select` never picks an implementation whose `is_available()` is false (this is the
`#[target_feature]` safety obligation of `unsafe_ifunc!` / `defraw!`). -/
theorem select_available (cfg : Cfg) :
    (select cfg = .avx2 → cfg.arch = .x86_64 ∧ avx2Available cfg = true) ∧
    (select cfg = .sse2 → cfg.arch = .x86_64 ∧ sse2Available cfg = true) ∧
    (select cfg = .neon → cfg.arch = .aarch64 ∧ neonAvailable cfg = true) ∧
    (select cfg = .simd128 → cfg.arch = .wasm32simd128 ∧ simd128Available cfg = true) := by
  unfold select x86Detect
  cases harch : cfg.arch <;> simp only [] <;>
    (repeat' split) <;> simp_all [neonAvailable, simd128Available]

/-! ### 1e. slice forms -/

/-- index (relative to the slice) of the first / last needle byte of the slice -/
def specIdx (ns : Needles) (rev : Bool) (hay : Slice) : Option Nat :=
  if rev then Spec.lastIdx ns.confirm (hay.mem.window hay.ptr hay.len)
  else Spec.firstIdx ns.confirm (hay.mem.window hay.ptr hay.len)

theorem specIdx_fwd (ns : Needles) (hay : Slice) :
    specIdx ns false hay = Spec.firstIdx ns.confirm hay.toList := by
  simp [specIdx, Slice.toList_eq_window]

theorem specIdx_rev (ns : Needles) (hay : Slice) :
    specIdx ns true hay = Spec.lastIdx ns.confirm hay.toList := by
  simp [specIdx, Slice.toList_eq_window]

theorem specIdx_lt {ns : Needles} {rev : Bool} {hay : Slice} {i : Nat}
    (h : specIdx ns rev hay = some i) : i < hay.len := by
  cases rev with
  | false => exact ((Slice.firstIdx_pointwise ns.confirm hay).2 i (specIdx_fwd ns hay ▸ h)).1
  | true => exact ((Slice.lastIdx_pointwise ns.confirm hay).2 i (specIdx_rev ns hay ▸ h)).1

theorem specFind_slice (ns : Needles) (rev : Bool) (hay : Slice) :
    specFind ns rev hay.mem hay.ptr (hay.ptr + hay.len) =
      (specIdx ns rev hay).map (hay.ptr + ·) := by
  unfold specFind specIdx specFirst specLast
  rw [Nat.add_sub_cancel_left]
  cases rev <;> simp

/-- bytes a forward search had to look at: `i + 1` for `Some(i)`, the length for `None`
(the same as `Fallback.scanned`) -/
def scannedFwd (r : Option Nat) (len : Nat) : Nat := Fallback.scanned r len

/-- bytes a reverse search had to look at: `len - i` for `Some(i)`, the length for `None` -/
def scannedRev (r : Option Nat) (len : Nat) : Nat :=
  match r with
  | some i => len - i
  | none => len

theorem scannedRev_le (r : Option Nat) (len : Nat) : scannedRev r len ≤ len := by
  cases r with
  | none => exact Nat.le_refl _
  | some i => exact Nat.sub_le _ _

/-- the step bound of the raw routines on the window `[a, a + len)`, read for the index `r` -/
theorem steps_le_scannedFwd {r : Option Nat} {a len s s' : Nat}
    (h : s' + a ≤ s + (upto (r.map (a + ·)) (a + len) + 2)) : s' ≤ s + scannedFwd r len + 2 := by
  cases r with
  | none =>
    change s' + a ≤ s + (a + len + 2) at h
    change s' ≤ s + len + 2
    omega
  | some i =>
    change s' + a ≤ s + (a + i + 1 + 2) at h
    change s' ≤ s + (i + 1) + 2
    omega

theorem steps_le_scannedRev {r : Option Nat} {a len s s' : Nat}
    (h : s' + downto (r.map (a + ·)) a ≤ s + (a + len + 2)) : s' ≤ s + scannedRev r len + 2 := by
  cases r with
  | none =>
    change s' + a ≤ s + (a + len + 2) at h
    change s' ≤ s + len + 2
    omega
  | some i =>
    change s' + (a + i) ≤ s + (a + len + 2) at h
    change s' ≤ s + (len - i) + 2
    omega

/-- `search_slice_with_raw` turns the address found into an index and takes no step of its own:
what holds of the counter after the raw routine (`Q`) holds after it. -/
theorem searchSliceWithRaw_run (hay : Slice) (hv : hay.Valid)
    (f : Nat → Nat → M (Option Nat)) (r : Option Nat) (c : Ctr) {Q : Ctr → Prop}
    (hf : ∃ c', f hay.ptr (hay.ptr + hay.len) c = .ok (r.map (hay.ptr + ·)) c' ∧ Q c')
    (hr : ∀ i, r = some i → i < hay.len) :
    ∃ c', searchSliceWithRaw hay f c = .ok r c' ∧ Q c' := by
  obtain ⟨c', hf, hq⟩ := hf
  have hpb := Slice.Valid.ptr_le hv
  have hpe := Slice.Valid.endPtr_le hv
  unfold searchSliceWithRaw
  rw [Mem.padd_ok hay.mem _ hay.ptr hay.len hpb hpe, pure_bind', bind_ok hf]
  cases r with
  | none => exact ⟨c', rfl, hq⟩
  | some i =>
    have hi : hay.ptr + i ≤ hay.mem.base + hay.mem.bytes.size :=
      Nat.le_trans (Nat.add_le_add_left (Nat.le_of_lt (hr i rfl)) _) hpe
    dsimp only [Option.map_some]
    rw [Mem.distance_eq rfl hpb hi, pure_bind']
    exact ⟨c', rfl, hq⟩

/-- the wrapper modules' `find` on a slice: value and steps -/
theorem sliceFind_fwd_run (b : Backend) (ns : Needles) (hay : Slice) (hv : hay.Valid) (c : Ctr) :
    ∃ c', sliceFind b ns false hay c = .ok (specIdx ns false hay) c' ∧
      c'.steps ≤ c.steps + scannedFwd (specIdx ns false hay) hay.len + 2 := by
  obtain ⟨r, c', e, hres, hc⟩ := rawFind_fwd_run b ns hay.mem hay.ptr (hay.ptr + hay.len) c
    (Slice.Valid.ptr_le hv) (Slice.Valid.endPtr_le hv)
  obtain rfl := hres.eq_spec.trans (specFind_slice ns false hay)
  exact searchSliceWithRaw_run hay hv _ _ c
    ⟨c', e, steps_le_scannedFwd (hc (Nat.le_add_right _ _))⟩ fun i hi => specIdx_lt hi

/-- the wrapper modules' `rfind` on a slice: value and steps -/
theorem sliceFind_rev_run (b : Backend) (ns : Needles) (hay : Slice) (hv : hay.Valid) (c : Ctr) :
    ∃ c', sliceFind b ns true hay c = .ok (specIdx ns true hay) c' ∧
      c'.steps ≤ c.steps + scannedRev (specIdx ns true hay) hay.len + 2 := by
  obtain ⟨r, c', e, hres, hc⟩ := rawFind_rev_run b ns hay.mem hay.ptr (hay.ptr + hay.len) c
    (Slice.Valid.ptr_le hv) (Slice.Valid.endPtr_le hv)
  obtain rfl := hres.eq_spec.trans (specFind_slice ns true hay)
  exact searchSliceWithRaw_run hay hv _ _ c
    ⟨c', e, steps_le_scannedRev (hc (Nat.le_add_right _ _))⟩ fun i hi => specIdx_lt hi

theorem sliceFind_correct (b : Backend) (ns : Needles) (rev : Bool) (hay : Slice)
    (hv : hay.Valid) (c : Ctr) :
    ∃ c', sliceFind b ns rev hay c = .ok (specIdx ns rev hay) c' := by
  cases rev with
  | false => exact (sliceFind_fwd_run b ns hay hv c).imp fun _ h => h.1
  | true => exact (sliceFind_rev_run b ns hay hv c).imp fun _ h => h.1

theorem rawCount_slice (b : Backend) (n1 : UInt8) (hay : Slice) (hv : hay.Valid) (c : Ctr) :
    ∃ c', rawCount b n1 hay.mem hay.ptr (hay.ptr + hay.len) c =
      .ok (Spec.countP (· == n1) (hay.mem.window hay.ptr hay.len)) c' := by
  have h := rawCount_correct b n1 hay.mem hay.ptr (hay.ptr + hay.len) c (Slice.Valid.ptr_le hv)
    (Slice.Valid.endPtr_le hv)
  rwa [specCount, Nat.add_sub_cancel_left] at h

theorem sliceCount_correct (b : Backend) (n1 : UInt8) (hay : Slice)
    (hv : hay.Valid) (c : Ctr) :
    ∃ c', sliceCount b n1 hay c =
      .ok (Spec.countP (· == n1) (hay.mem.window hay.ptr hay.len)) c' := by
  unfold sliceCount
  rw [Mem.padd_ok hay.mem _ hay.ptr hay.len (Slice.Valid.ptr_le hv) (Slice.Valid.endPtr_le hv),
    pure_bind']
  exact rawCount_slice b n1 hay hv c

/-- the public `memchr` / `memrchr` / `memchr2` / ... for a given configuration -/
theorem memchr_correct (cfg : Cfg) (ns : Needles) (rev : Bool) (hay : Slice)
    (hv : hay.Valid) (c : Ctr) :
    ∃ c', memchr cfg ns rev hay c = .ok (specIdx ns rev hay) c' :=
  memchr_eq_select cfg ns rev hay ▸ sliceFind_correct (select cfg) ns rev hay hv c

theorem count_correct (cfg : Cfg) (n1 : UInt8) (hay : Slice)
    (hv : hay.Valid) (c : Ctr) :
    ∃ c', count cfg n1 hay c =
      .ok (Spec.countP (· == n1) (hay.mem.window hay.ptr hay.len)) c' := by
  unfold count Iter.count Iter.new
  dsimp only
  rw [countRaw_eq_select]
  exact rawCount_slice (select cfg) n1 hay hv c

/-- a valid, non-trivial slice: bytes 3..13 of a 40-byte region at an odd address -/
example : (⟨⟨0, 1001, Array.replicate 40 0⟩, 3, 10⟩ : Slice).Valid := by
  simp [Slice.Valid]

end Memchr.Api

#print axioms Memchr.Api.rawFind_correct
#print axioms Memchr.Api.rawCount_correct
#print axioms Memchr.Api.memchrRaw_eq_select
#print axioms Memchr.Api.select_available
#print axioms Memchr.Api.sliceFind_correct
#print axioms Memchr.Api.sliceCount_correct
#print axioms Memchr.Api.memchr_correct
#print axioms Memchr.Api.count_correct
