/-
Pair selection (`Pair::with_ranker`, `Pair::new`, `Pair::with_indices`): property C19.

For every needle and every ranker the selection returns `None` exactly for needles shorter
than 2 and otherwise two distinct in-range offsets; neither `u8::try_from(i).unwrap()` nor
`assert_ne!(index1, index2)` can fire; the scan costs at most `min(needle.len(), 255)` steps.

The theorem is proved for rankers with interior state (`Model/PairImpure.lean`): the invariant
mentions no rank value.  A ranker that is a function of the byte is the case `σ = Unit`, so the
statement about `withRanker` follows through the simulation `withRankerS_pure`.
-/
import MemchrModel.Base.Run
import MemchrModel.Model.PairImpure

namespace Memchr.Pair

/-! ### obligations on the generated constants (re-checked whenever they change) -/

/-- `max = usize::from(u8::MAX)` fits the `u8::try_from(i).unwrap()` in the loop -/
theorem pairScanMax_le : Generated.pairScanMax ≤ 255 := by decide

/-- the loop starts right after the two positions used for the initial pair -/
theorem pairScanSkip_eq : Generated.pairScanSkip = 2 := by decide

theorem pairScanMax_ge : 2 ≤ Generated.pairScanMax := by decide

set_option maxRecDepth 8192 in
/-- `RANK` is a `[u8; 256]`: indexing with a `u8` is always in range -/
theorem defaultRankTable_size : Generated.defaultRankTable.size = 256 := by decide

theorem defaultRank_eq (b : UInt8) :
    defaultRank b = Generated.defaultRankTable[b.toNat]'(by
      rw [defaultRankTable_size]; exact UInt8.toNat_lt b) := by
  have h : b.toNat < Generated.defaultRankTable.size := by
    rw [defaultRankTable_size]; exact UInt8.toNat_lt b
  simp [defaultRank, h]

theorem u8TryFrom_ok (site : String) {i : Nat} (h : i ≤ 255) :
    u8TryFrom site i = pure (UInt8.ofNat i) := by
  simp [u8TryFrom, h]

theorem ne_of_toNat_lt {a b : UInt8} (h : a.toNat < b.toNat) : a ≠ b := by
  intro e; subst e; omega

/-- Loop invariant of the scan with a stateful ranker: `index1 ≠ index2`, both `< i`.  It does
not mention any rank value, so it holds whatever the ranker answers (and however its answers
change from call to call). -/
theorem scanLoopS_spec {σ : Type} (needle : Slice) (rank : σ → UInt8 → UInt8 × σ)
    (stop i k : Nat) (rare1 index1 rare2 index2 : UInt8) (s : σ) (c : Ctr)
    (hstop : stop ≤ 255) (hik : i + k = stop)
    (hne : index1 ≠ index2) (h1 : index1.toNat < i) (h2 : index2.toNat < i) :
    Holds (scanLoopS needle rank stop i rare1 index1 rare2 index2 s) c fun r c' =>
      r.1 ≠ r.2.1 ∧ r.1.toNat < stop ∧ r.2.1.toNat < stop ∧
      c'.steps = c.steps + k ∧ c'.loads = c.loads := by
  induction k generalizing i rare1 index1 rare2 index2 s c with
  | zero =>
    obtain rfl : i = stop := hik
    rw [scanLoopS, dif_neg (Nat.lt_irrefl i)]
    exact Holds.pure ⟨hne, h1, h2, rfl, rfl⟩
  | succ k ih =>
    have hi255 : i ≤ 255 := by omega
    have hto : (UInt8.ofNat i).toNat = i := UInt8.toNat_ofNat_of_lt' (Nat.lt_succ_of_le hi255)
    have hi1 : index1.toNat < (UInt8.ofNat i).toNat := hto.symm ▸ h1
    -- every branch re-enters the loop at `i + 1` with two distinct offsets `≤ i`
    have next : ∀ r1 j1 r2 j2 s', j1 ≠ j2 → j1.toNat ≤ i → j2.toNat ≤ i →
        Holds (scanLoopS needle rank stop (i + 1) r1 j1 r2 j2 s') { c with steps := c.steps + 1 }
          fun r c' => r.1 ≠ r.2.1 ∧ r.1.toNat < stop ∧ r.2.1.toNat < stop ∧
            c'.steps = c.steps + (k + 1) ∧ c'.loads = c.loads :=
      fun r1 j1 r2 j2 s' hj a1 a2 =>
        (ih (i + 1) r1 j1 r2 j2 s' _ (by omega) hj (Nat.lt_succ_of_le a1)
          (Nat.lt_succ_of_le a2)).mono
          fun _ _ ⟨b1, b2, b3, b4, b5⟩ =>
            ⟨b1, b2, b3, b4.trans (Nat.add_right_comm c.steps 1 k), b5⟩
    rw [scanLoopS, dif_pos (by omega)]
    apply Holds.tick_bind
    dsimp only
    rcases rank s (needle.getD i) with ⟨rb, s1⟩
    rcases rank s1 rare1 with ⟨rr1, s2⟩
    refine Holds.ite (fun _ => ?_) (fun _ => Holds.ite (fun _ => ?_) (fun _ => ?_))
    · rw [u8TryFrom_ok _ hi255]
      exact next _ _ _ _ _ (ne_of_toNat_lt hi1).symm (Nat.le_of_eq hto) (Nat.le_of_lt h1)
    · rcases rank s2 (needle.getD i) with ⟨rb', s3⟩
      rcases rank s3 rare2 with ⟨rr2, s4⟩
      refine Holds.ite (fun _ => ?_) (fun _ => ?_)
      · rw [u8TryFrom_ok _ hi255]
        exact next _ _ _ _ _ (ne_of_toNat_lt hi1) (Nat.le_of_lt h1) (Nat.le_of_eq hto)
      · exact next _ _ _ _ _ hne (Nat.le_of_lt h1) (Nat.le_of_lt h2)
    · exact next _ _ _ _ _ hne (Nat.le_of_lt h1) (Nat.le_of_lt h2)

/-- what `with_ranker` / `new` / `with_indices` guarantee about a pair for `needle` -/
structure ValidFor (p : Pair) (needle : Slice) : Prop where
  ne : p.index1 ≠ p.index2
  lt1 : p.index1.toNat < needle.len
  lt2 : p.index2.toNat < needle.len

theorem ValidFor.congr {p : Pair} {n n0 : Slice} (hl : n.len = n0.len) (h : p.ValidFor n0) :
    p.ValidFor n :=
  ⟨h.ne, hl ▸ h.lt1, hl ▸ h.lt2⟩

theorem ValidFor.toNat_ne {p : Pair} {n : Slice} (h : p.ValidFor n) :
    p.index1.toNat ≠ p.index2.toNat :=
  fun e => h.ne (UInt8.toNat_inj.mp e)

/-- **C19** `Pair::with_ranker(needle, ranker)` for every needle and every ranker WITH INTERIOR
STATE (any state type, any transition function, any initial state): no fault, `None` exactly
when `needle.len() < 2`, otherwise two distinct offsets inside the needle, both `<= 254`; at
most `min(needle.len(), 255)` steps and no raw load. -/
theorem withRankerS_correct {σ : Type} (needle : Slice) (rank : σ → UInt8 → UInt8 × σ) (s0 : σ)
    (c : Ctr) :
    ∃ r s' c', withRankerS needle rank s0 c = .ok (r, s') c' ∧
      (r = none ↔ needle.len < 2) ∧
      (∀ p, r = some p → p.ValidFor needle ∧ p.index1.toNat ≤ 254 ∧ p.index2.toNat ≤ 254) ∧
      c'.steps ≤ c.steps + min needle.len 255 ∧ c'.loads = c.loads := by
  unfold withRankerS
  by_cases hlen : needle.len ≤ 1
  · rw [if_pos hlen]
    exact ⟨none, s0, c, rfl, by simp; omega, by simp, by omega, rfl⟩
  · rw [if_neg hlen]
    -- whichever of `needle[0]`, `needle[1]` is rarer, the initial offsets are `0` and `1`
    have init : ∀ (b : Prop) [Decidable b], (if b then 1 else 0 : UInt8) ≠ (if b then 0 else 1) ∧
        (if b then 1 else 0 : UInt8).toNat < 2 ∧ (if b then 0 else 1 : UInt8).toNat < 2 := by
      intro b _
      split <;> decide
    have hs1 : min needle.len Generated.pairScanMax ≤ needle.len := Nat.min_le_left ..
    have hs2 : min needle.len Generated.pairScanMax ≤ 255 :=
      Nat.le_trans (Nat.min_le_right ..) pairScanMax_le
    obtain ⟨k, hk⟩ : ∃ k, 2 + k = min needle.len Generated.pairScanMax :=
      Nat.le.dest (Nat.le_min.mpr ⟨Nat.lt_of_not_le hlen, pairScanMax_ge⟩)
    apply Holds.pair
    apply Holds.get_bind (by omega)
    apply Holds.get_bind (by omega)
    rcases rank s0 (needle.getD 1) with ⟨q2, s1⟩
    dsimp only
    rcases rank s1 (needle.getD 0) with ⟨q1, s2⟩
    dsimp only
    rw [pairScanSkip_eq]
    generalize min needle.len Generated.pairScanMax = stop at hs1 hs2 hk ⊢
    obtain ⟨i1, i2, i3⟩ := init (q2 < q1)
    apply Holds.bind (scanLoopS_spec needle rank stop 2 k _ _ _ _ s2 c hs2 hk i1 i2 i3)
    intro ⟨j1, j2, s'⟩ c' ⟨a1, a2, a3, a4, a5⟩
    apply Holds.assert_bind (bne_iff_ne.mpr a1)
    have hks : k ≤ min needle.len 255 :=
      Nat.le_trans (hk ▸ Nat.le_add_left k 2) (Nat.le_min.mpr ⟨hs1, hs2⟩)
    refine Holds.pure ⟨by simp; omega, ?_,
      Nat.le_trans (Nat.le_of_eq a4) (Nat.add_le_add_left hks _), a5⟩
    intro p hp
    cases hp
    exact ⟨⟨a1, Nat.lt_of_lt_of_le a2 hs1, Nat.lt_of_lt_of_le a3 hs1⟩,
      Nat.le_of_lt_succ (Nat.lt_of_lt_of_le a2 hs2), Nat.le_of_lt_succ (Nat.lt_of_lt_of_le a3 hs2)⟩

theorem ite_bind {α β : Type} (p : Prop) [Decidable p] (x y : M α) (g : α → M β) :
    (if p then x else y) >>= g = if p then x >>= g else y >>= g :=
  apply_ite (· >>= g) p x y

theorem ite_and {α : Type} (p q : Prop) [Decidable p] [Decidable q] (x y : α) :
    (if p ∧ q then x else y) = if p then if q then x else y else y := by
  by_cases hp : p <;> simp only [hp, true_and, false_and, if_true, if_false]

/-- The two models differ in the `&&` of the second test only: `scanLoopS` asks the ranker about
`rare2` inside a nested `if`, as the Rust evaluates it (`ite_and`). -/
theorem scanLoopS_pure (needle : Slice) (f : UInt8 → UInt8) (stop i : Nat)
    (rare1 index1 rare2 index2 : UInt8) :
    scanLoopS needle (fun _ b => (f b, ())) stop i rare1 index1 rare2 index2 () =
      scanLoop needle f stop i rare1 index1 rare2 index2 >>= fun p => pure (p.1, p.2, ()) := by
  fun_induction scanLoop needle f stop i rare1 index1 rare2 index2 with
  | case1 i rare1 index1 rare2 index2 hlt ihA ihB ihC =>
    rw [scanLoopS, dif_pos hlt]
    simp only [M.bind_assoc, ite_bind, ← ihA, ← ihB, ← ihC, Bool.and_eq_true, decide_eq_true_eq,
      ite_and]
  | case2 i rare1 index1 rare2 index2 hge =>
    rw [scanLoopS, dif_neg hge]
    rfl

/-- With `σ := Unit` and a ranker that ignores its state the stateful model IS the pure model
`withRanker`. -/
theorem withRankerS_pure (needle : Slice) (f : UInt8 → UInt8) :
    withRankerS needle (fun _ b => (f b, ())) () = (fun r => (r, ())) <$> withRanker needle f := by
  unfold withRankerS withRanker
  show _ = _ >>= _
  simp only [scanLoopS_pure, M.bind_assoc, ite_bind]
  rfl

/-- **C19** `Pair::with_ranker(needle, ranker)`, for every needle and every ranker: no fault
(neither `u8::try_from(i).unwrap()` nor `assert_ne!(index1, index2)` fires, `needle[0]` and
`needle[1]` are in range); the answer is `None` exactly when `needle.len() < 2`, otherwise two
distinct offsets inside the needle, both `<= 254`; at most `min(needle.len(), 255)` steps and
no raw load. -/
theorem withRanker_correct (needle : Slice) (rank : UInt8 → UInt8) (c : Ctr) :
    ∃ r c', withRanker needle rank c = .ok r c' ∧
      (r = none ↔ needle.len < 2) ∧
      (∀ p, r = some p → p.ValidFor needle ∧ p.index1.toNat ≤ 254 ∧ p.index2.toNat ≤ 254) ∧
      c'.steps ≤ c.steps + min needle.len 255 ∧ c'.loads = c.loads := by
  obtain ⟨r, s', c', h, rest⟩ := withRankerS_correct needle (fun _ b => (rank b, ())) () c
  rw [withRankerS_pure, M.map_run] at h
  cases hw : withRanker needle rank c with
  | ok a c1 => rw [hw] at h; cases h; exact ⟨_, _, rfl, rest⟩
  | fault e => rw [hw] at h; cases h

/-- **C19** `Pair::new(needle)` (the default ranker reads `RANK[byte]`, always in range) -/
theorem new_correct (needle : Slice) (c : Ctr) :
    ∃ r c', Pair.new needle c = .ok r c' ∧
      (r = none ↔ needle.len < 2) ∧
      (∀ p, r = some p → p.ValidFor needle ∧ p.index1.toNat ≤ 254 ∧ p.index2.toNat ≤ 254) ∧
      c'.steps ≤ c.steps + min needle.len 255 ∧ c'.loads = c.loads :=
  withRanker_correct needle defaultRank c

/-- **C19** `Pair::with_indices(needle, index1, index2)` accepts exactly the pairs of distinct
in-range offsets and reports the pair it was given -/
theorem withIndices_eq_some_iff (needle : Slice) (i1 i2 : UInt8) (p : Pair) :
    withIndices needle i1 i2 = some p ↔
      p = ⟨i1, i2⟩ ∧ i1 ≠ i2 ∧ i1.toNat < needle.len ∧ i2.toNat < needle.len := by
  unfold withIndices
  by_cases h0 : i1 = i2
  · rw [if_pos (beq_iff_eq.mpr h0)]
    exact ⟨nofun, fun h => absurd h0 h.2.1⟩
  · rw [if_neg (mt beq_iff_eq.mp h0)]
    by_cases h1 : i1.toNat ≥ needle.len
    · rw [if_pos h1]
      exact ⟨nofun, fun h => absurd h.2.2.1 (Nat.not_lt.mpr h1)⟩
    · rw [if_neg h1]
      by_cases h2 : i2.toNat ≥ needle.len
      · rw [if_pos h2]
        exact ⟨nofun, fun h => absurd h.2.2.2 (Nat.not_lt.mpr h2)⟩
      · rw [if_neg h2]
        exact ⟨fun e => ⟨(Option.some.inj e).symm, h0, Nat.lt_of_not_le h1, Nat.lt_of_not_le h2⟩,
          fun h => h.1 ▸ rfl⟩

theorem withIndices_validFor {needle : Slice} {i1 i2 : UInt8} {p : Pair}
    (h : withIndices needle i1 i2 = some p) : p.ValidFor needle := by
  obtain ⟨rfl, a, b, c⟩ := (withIndices_eq_some_iff needle i1 i2 p).mp h
  exact ⟨a, b, c⟩

end Memchr.Pair
