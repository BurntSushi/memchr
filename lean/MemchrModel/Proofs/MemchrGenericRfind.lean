/-
`rfind_raw`: loop lemmas and the master theorem, each giving the value and the step bound in one
walk.  Where the model steps back by `cur - k`, the proof first writes `cur = q + k`.
-/
import MemchrModel.Proofs.MemchrGenericChunk

namespace Memchr.Generic

variable {V : VecImpl}

theorem revLoop1_spec (L : Lawful V) {ns : Needles} {m : Mem} {start hi cur : Nat} {c : Ctr}
    (hb : m.base ≤ start) (hsc : start ≤ cur) (hch : cur ≤ hi) (hle : start + V.bytes ≤ hi)
    (he : hi ≤ m.base + m.bytes.size) (hno : NoHit m ns.confirm cur hi) :
    Holds (revLoop1 V ns m start cur) c (fun r c' =>
      LastRes m ns.confirm start hi r ∧ c'.steps + downto r start ≤ c.steps + cur) := by
  have hpos := V.bytes_pos
  fun_induction revLoop1 V ns m start cur generalizing c with
  | case1 cur h ih =>
    obtain ⟨q, rfl⟩ : ∃ q, cur = q + V.bytes :=
      Nat.exists_eq_add_of_le' (Nat.le_trans (Nat.le_add_left _ _) h)
    simp only [Nat.add_sub_cancel] at ih ⊢
    have hsq : start ≤ q := Nat.le_of_add_le_add_right h
    have hbq : m.base ≤ q := Nat.le_trans hb hsq
    have hce := Nat.le_trans hch he
    apply Holds.distance_bind' hb hsc hce
    intro d hd
    apply Holds.dbgAssert_bind' (dist_ge hd h)
    apply Holds.psub_bind (Nat.add_le_add_right hbq _) hce
    apply Holds.bind (searchChunk_last L hbq hce)
    rintro r c1 ⟨hres, hst⟩
    cases r with
    | some p =>
      have hlr := hres.extend hno (Nat.le_refl _) hch hsq
      exact Holds.pure ⟨hlr, step_le hst (hlr.lt hno)⟩
    | none =>
      apply Holds.mono (ih hsq (Nat.le_trans (Nat.le_add_right _ _) hch)
        (NoHit.union hres hno (Nat.le_refl _)))
      exact fun r c' ⟨hlr, hc⟩ => ⟨hlr,
        Nat.le_trans hc (step_le hst (Nat.lt_add_of_pos_right hpos))⟩
  | case2 cur h h2 =>
    have hcs : cur ≤ start + V.bytes := Nat.le_of_lt (Nat.lt_of_not_le h)
    apply Holds.distance_bind' hb hsc (Nat.le_trans hch he)
    intro d hd
    apply Holds.dbgAssert_bind' (dist_lt hd (Nat.lt_of_not_le h))
    apply Holds.mono (searchChunk_last L hb (Nat.le_trans hle he))
    rintro r c1 ⟨hres, hst⟩
    cases r with
    | some p =>
      have hlr := hres.extend hno hcs hle (Nat.le_refl _)
      exact ⟨hlr, step_le hst (hlr.lt hno)⟩
    | none => exact ⟨NoHit.union hres hno hcs, step_le hst h2⟩
  | case3 cur h h2 =>
    obtain rfl : cur = start := Nat.le_antisymm (Nat.le_of_not_lt h2) hsc
    exact Holds.pure ⟨hno, Nat.le_refl _⟩

theorem revLoopN_spec (L : Lawful V) {ns : Needles} {u : Nat} {hu : 0 < u} {m : Mem}
    {start hi cur : Nat} {c : Ctr}
    (hb : m.base ≤ start) (hsc : start ≤ cur) (hch : cur ≤ hi) (hle : start + V.bytes ≤ hi)
    (hal : cur % V.bytes = 0)
    (he : hi ≤ m.base + m.bytes.size) (hno : NoHit m ns.confirm cur hi) :
    Holds (revLoopN V ns u hu m start cur) c (fun r c' =>
      LastRes m ns.confirm start hi r ∧ c'.steps + downto r start ≤ c.steps + cur) := by
  have hupos : 0 < u * V.bytes := Nat.mul_pos hu V.bytes_pos
  fun_induction revLoopN V ns u hu m start cur generalizing c with
  | case1 cur h ih =>
    obtain ⟨q, rfl⟩ : ∃ q, cur = q + u * V.bytes :=
      Nat.exists_eq_add_of_le' (Nat.le_trans (Nat.le_add_left _ _) h)
    simp only [Nat.add_sub_cancel] at ih ⊢
    have hsq : start ≤ q := Nat.le_of_add_le_add_right h
    have hbq : m.base ≤ q := Nat.le_trans hb hsq
    have hce := Nat.le_trans hch he
    have hal' : q % V.bytes = 0 := (Nat.add_mul_mod_self_right ..).symm.trans hal
    apply Holds.dbgAssert_bind (beq_iff_eq.mpr hal)
    apply Holds.psub_bind (Nat.add_le_add_right hbq _) hce
    apply Holds.bind (block_last L hbq hce (fun _ => hal'))
    rintro r c1 ⟨hres, hst⟩
    cases r with
    | some p =>
      have hlr := hres.extend hno (Nat.le_refl _) hch hsq
      exact Holds.pure ⟨hlr, step_le hst (hlr.lt hno)⟩
    | none =>
      apply Holds.mono (ih hsq (Nat.le_trans (Nat.le_add_right _ _) hch) hal'
        (NoHit.union hres hno (Nat.le_refl _)))
      exact fun r c' ⟨hlr, hc⟩ => ⟨hlr,
        Nat.le_trans hc (step_le hst (Nat.lt_add_of_pos_right hupos))⟩
  | case2 cur h =>
    exact revLoop1_spec L hb hsc hch hle he hno

/-- **`rfind_raw`.**  The run returns normally with the last needle byte, after at most one step
per byte looked at plus one (`steps ≤ end - downto r start + 1`; the chunk at `end - V::BYTES`
and the first aligned one may overlap entirely). -/
theorem rfindRaw_spec (L : Lawful V) (ns : Needles) (u : Nat) (hu : 0 < u)
    (m : Mem) (start end_ : Nat) (c : Ctr)
    (hs : m.base ≤ start) (he : end_ ≤ m.base + m.bytes.size) (hlen : start + V.bytes ≤ end_) :
    Holds (rfindRaw V ns u hu m start end_) c (fun r c' =>
      LastRes m ns.confirm start end_ r ∧ c'.steps + downto r start ≤ c.steps + end_ + 1) := by
  have hse : start ≤ end_ := Nat.le_trans (Nat.le_add_right _ _) hlen
  have hbe : m.base + V.bytes ≤ end_ := Nat.le_trans (Nat.add_le_add_right hs _) hlen
  unfold rfindRaw
  apply Holds.dbgAssert_bind' L.bytes_le
  apply Holds.distance_bind' hs hse he
  intro len hlen'
  apply Holds.dbgAssert_bind' (dist_ge hlen' hlen)
  apply Holds.psub_bind' hbe he
  intro tail htail
  have hst' : start ≤ tail := le_of_add_le hlen htail (Nat.le_refl _)
  apply Holds.bind (searchChunk_last L (Nat.le_trans hs hst') (htail ▸ he))
  rintro r c1 ⟨hres, hst⟩
  rw [htail] at hres
  cases r with
  | some p =>
    exact Holds.pure ⟨hres.extend (NoHit.empty m _ (Nat.le_refl end_)) (Nat.le_refl _)
      (Nat.le_refl _) hst', Nat.le_succ_of_le (step_le hst hres.2.1)⟩
  | none =>
    have hk := and_align_lt L end_
    apply Holds.psub_bind' (Nat.le_trans (Nat.add_le_add hs (Nat.le_of_lt hk)) hlen) he
    intro cur hcur
    have hsc : start ≤ cur := le_of_add_le hlen hcur (Nat.le_of_lt hk)
    have hce : cur ≤ end_ := hcur ▸ Nat.le_add_right _ _
    apply Holds.dbgAssert_and_bind hsc hce
    apply Holds.padd_bind hs (Nat.le_trans hlen he)
    have hno : NoHit m ns.confirm cur end_ :=
      hres.mono (le_of_add_le (Nat.le_of_eq htail) hcur (Nat.le_of_lt hk)) (Nat.le_refl _)
    refine Holds.ite (fun hbig => ?_) (fun _ => ?_)
    · apply Holds.padd_bind hs (show start + u * V.bytes ≤ m.base + m.bytes.size by omega)
      apply Holds.mono (revLoopN_spec L hs hsc hce hlen (align_down (and_align L end_) hcur) he hno)
      exact fun r c' ⟨hlr, hc⟩ => ⟨hlr,
        Nat.le_trans hc (step_le (y := end_ + 1) hst (Nat.lt_succ_of_le hce))⟩
    · apply Holds.mono (revLoop1_spec L hs hsc hce hlen he hno)
      exact fun r c' ⟨hlr, hc⟩ => ⟨hlr,
        Nat.le_trans hc (step_le (y := end_ + 1) hst (Nat.lt_succ_of_le hce))⟩

end Memchr.Generic
