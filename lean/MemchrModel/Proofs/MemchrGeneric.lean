/-
Master theorems for the generic vector `find_raw` / `rfind_raw` / `count_raw`
(`src/arch/generic/memchr.rs`), for every lawful vector implementation, every needle set,
every unroll factor, every memory region (every base address, hence every alignment) and
every window `[start, end)` of at least `V::BYTES` bytes inside it.

`= .ok (spec) c'` means: the run returns normally (no out-of-bounds or misaligned load, no
pointer arithmetic leaving the allocation, no overflow, no debug assertion failure) and the
value is the naive specification.
-/
import MemchrModel.Proofs.MemchrGenericFind
import MemchrModel.Proofs.MemchrGenericRfind
import MemchrModel.Proofs.MemchrGenericCount

namespace Memchr.Generic

theorem findRaw_correct (V : VecImpl) (L : Lawful V) (ns : Needles) (u : Nat) (hu : 0 < u)
    (m : Mem) (start end_ : Nat) (c : Ctr)
    (hs : m.base ≤ start) (he : end_ ≤ m.base + m.bytes.size) (hlen : start + V.bytes ≤ end_) :
    ∃ c', findRaw V ns u hu m start end_ c =
      .ok ((Spec.firstIdx ns.confirm (m.window start (end_ - start))).map (start + ·)) c' :=
  FirstRes.run_spec (findRaw_spec L ns u hu m start end_ c hs he hlen)

theorem rfindRaw_correct (V : VecImpl) (L : Lawful V) (ns : Needles) (u : Nat) (hu : 0 < u)
    (m : Mem) (start end_ : Nat) (c : Ctr)
    (hs : m.base ≤ start) (he : end_ ≤ m.base + m.bytes.size) (hlen : start + V.bytes ≤ end_) :
    ∃ c', rfindRaw V ns u hu m start end_ c =
      .ok ((Spec.lastIdx ns.confirm (m.window start (end_ - start))).map (start + ·)) c' :=
  LastRes.run_spec (rfindRaw_spec L ns u hu m start end_ c hs he hlen)

theorem countRaw_correct (V : VecImpl) (L : Lawful V) (n1 : UInt8) (u : Nat) (hu : 0 < u)
    (m : Mem) (start end_ : Nat) (c : Ctr)
    (hs : m.base ≤ start) (he : end_ ≤ m.base + m.bytes.size) (hlen : start + V.bytes ≤ end_) :
    ∃ c', countRaw V n1 u hu m start end_ c =
      .ok (Spec.countP (· == n1) (m.window start (end_ - start))) c' :=
  Holds.run_val (countRaw_spec L n1 u hu m start end_ c hs he hlen)

end Memchr.Generic

