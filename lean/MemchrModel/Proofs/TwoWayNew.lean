/-
Two-Way, forward direction: the constructor `Finder::new`, walked once (`finder_new_full`).  It
never faults, costs at most `6 * len + 2` steps, yields a byte set without false negatives, and
the critical position and shift it stores satisfy the certificate `CertFwd` (T1-T3 of DESIGN
section 8: `Proofs/TwoWayCertWords.lean`, `TwoWayCertSuffix.lean`, `TwoWayCertShift.lean`).
`finder_new_spec` is the weaker form with `SoundPre`, the hypothesis of `find_sound`.
-/
import MemchrModel.Proofs.TwoWayCertShift

namespace Memchr.TwoWay

theorem u64_and_or_right (a b m : UInt64) : (a ||| b) &&& m = (a &&& m) ||| (b &&& m) :=
  UInt64.toBitVec_inj.1 BitVec.and_or_distrib_right

theorem shl_ne_zero : ∀ k, k < 64 → (1 : UInt64) <<< k.toUInt64 ≠ 0 := by decide

theorem bsMask_ne_zero (b : UInt8) : bsMask b ≠ 0 :=
  shl_ne_zero _ (Nat.mod_lt _ (by decide))

theorem has_or_left {bits m : UInt64} {b : UInt8} (h : bits &&& bsMask b ≠ 0) :
    (bits ||| m) &&& bsMask b ≠ 0 := by
  rw [u64_and_or_right]
  intro h0
  exact h (UInt64.or_eq_zero_iff.mp h0).1

theorem has_or_self (bits : UInt64) (b : UInt8) : (bits ||| bsMask b) &&& bsMask b ≠ 0 := by
  rw [u64_and_or_right, UInt64.and_self]
  intro h0
  exact bsMask_ne_zero b (UInt64.or_eq_zero_iff.mp h0).2

theorem newLoop_spec (needle : Slice) (i : Nat) (bits : UInt64) (c : Ctr)
    (hinv : ∀ t, t < i → bits &&& bsMask (needle.getD t) ≠ 0) :
    Holds (ApproximateByteSet.newLoop needle i bits) c (fun bits' c' =>
      c' = { c with steps := c.steps + (needle.len - i) } ∧
      ∀ t, t < needle.len → bits' &&& bsMask (needle.getD t) ≠ 0) := by
  fun_induction ApproximateByteSet.newLoop needle i bits generalizing c with
  | case1 i bits h b ih =>
    apply Holds.tick_bind
    apply shl1_bind (Nat.mod_lt _ (by decide))
    refine Holds.mono (ih _ _ fun t ht => ?_) ?_
    · rcases Nat.lt_succ_iff_lt_or_eq.mp ht with hlt | rfl
      · exact has_or_left (hinv t hlt)
      · exact has_or_self bits (needle.getD t)
    · rintro bits' c' ⟨rfl, h1⟩
      refine ⟨?_, h1⟩
      congr 1
      show c.steps + 1 + (needle.len - (i + 1)) = c.steps + (needle.len - i)
      omega
  | case2 i bits h =>
    refine Holds.pure ⟨?_, fun t ht => hinv t (Nat.lt_of_lt_of_le ht (Nat.le_of_not_lt h))⟩
    rw [Nat.sub_eq_zero_of_le (Nat.le_of_not_lt h)]
    rfl

theorem byteset_new_spec (needle : Slice) (c : Ctr) :
    ∃ bs, ApproximateByteSet.new needle c = .ok bs { c with steps := c.steps + needle.len } ∧
      ∀ t, t < needle.len → bs.has (needle.getD t) = true := by
  obtain ⟨bits, _, e, rfl, h⟩ := newLoop_spec needle (i := 0) (bits := 0) c nofun
  refine ⟨⟨bits⟩, ?_, ?_⟩
  · simp only [ApproximateByteSet.new, bind_ok e]; rfl
  · intro t ht
    simpa [ApproximateByteSet.has] using h t ht

/-- the step budget of both constructors: `len` for the byte set, `2 * len` for each of the two
suffixes, `len / 4 + 2` for the shift -/
theorem new_steps {c0 c1 c2 c3 n : Nat} (h1 : c1 ≤ c0 + n + 2 * n) (h2 : c2 ≤ c1 + 2 * n)
    (h3 : c3 ≤ c2 + n / 4 + 2) : c3 ≤ c0 + 6 * n + 2 := by omega

/-- **Constructor, everything about one run.**  `Finder::new(needle)` never faults.  After the
run, the conjuncts in order: *steps* (at most `6 * len + 2`), *bs* (the byte set has no false
negatives), *cert* (the `critical_pos` and `shift` it stores satisfy `CertFwd`), *large* (a `Large`
shift lies in `[len / 2, len]`), *small* (in the `Small` case the left part is the shorter one and
`critical_pos + period <= len`). -/
theorem finder_new_full (needle : Slice) (c : Ctr) (hnv : needle.Valid) :
    ∃ tw c', Finder.new needle c = .ok tw c' ∧
      c'.steps ≤ c.steps + 6 * needle.len + 2 ∧
      (∀ b, b ∈ needle.toArray → tw.byteset.has b = true) ∧
      CertFwd needle.toArray tw.criticalPos tw.shift ∧
      (∀ s, tw.shift = .large s → needle.len ≤ 2 * s ∧ s ≤ needle.len) ∧
      (∀ q, tw.shift = .small q → tw.criticalPos * 2 < needle.len ∧
        tw.criticalPos + q ≤ needle.len) := by
  obtain ⟨bs, ebs, hbs'⟩ := byteset_new_spec needle c
  have hbs : ∀ b, b ∈ needle.toArray → bs.has b = true := fun b hb => by
    obtain ⟨t, ht, rfl⟩ := (Slice.mem_toArray_iff hnv).mp hb
    exact hbs' t ht
  unfold Finder.new
  rw [bind_ok ebs]
  by_cases h0 : needle.len = 0
  · rw [bind_ok (suffix_forward_empty needle _ _ h0), bind_ok (suffix_forward_empty needle _ _ h0)]
    simp only [Nat.lt_irrefl, if_false, Shift.forward, h0, csub_ok (Nat.le_refl 0),
      pure_bind', Nat.zero_mul, ge_iff_le, Nat.le_refl, if_true]
    have hsz : needle.toArray.size = 0 := by rw [Slice.toArray_size hnv]; exact h0
    refine ⟨_, _, rfl, by simp, hbs,
      ⟨fun k hk _ => ⟨per_of_size_le _ hk (by omega), hk⟩, fun h => by omega, fun k _ => by simp⟩,
      fun s hs => by cases hs; simp, nofun⟩
  · have hn : 0 < needle.len := Nat.pos_of_ne_zero h0
    obtain ⟨s1, c1, e1, w1, hs1, _⟩ :=
      suffix_forward_full needle .minimal { c with steps := c.steps + needle.len } hn
    obtain ⟨s2, c2, e2, w2, hs2, _⟩ := suffix_forward_full needle .maximal c1 hn
    rw [bind_ok e1, bind_ok e2]
    by_cases hgt : s1.pos > s2.pos
    · simp only [hgt, if_true]
      obtain ⟨sh, c3, e3, hcert, hs3, hl, hsm⟩ := shift_forward_of_wins needle hnv
        (kindLt_strictTotal .minimal) w1 w2 (Nat.le_of_lt hgt) c2
      rw [bind_ok e3]
      exact ⟨_, c3, rfl, new_steps hs1 hs2 hs3, hbs, hcert, hl, hsm⟩
    · simp only [hgt, if_false]
      obtain ⟨sh, c3, e3, hcert, hs3, hl, hsm⟩ := shift_forward_of_wins needle hnv
        (kindLt_strictTotal .maximal) w2 w1 (Nat.le_of_not_gt hgt) c2
      rw [bind_ok e3]
      exact ⟨_, c3, rfl, new_steps hs1 hs2 hs3, hbs, hcert, hl, hsm⟩

/-- **Constructor.**  `Finder::new(needle)` never faults.  After the run, the conjuncts in order:
*steps* (at most `6 * len + 2`), *bs* (the byte set has no false negatives), *crit*
(`critical_pos <= len`), *sound* (for a non-empty needle the result satisfies `SoundPre`:
`critical_pos < len`, shift value `>= 1`; `Small`: `period` is a period of the needle and
`critical_pos <= period <= len`), *half* (a `Large` shift is at least half the length). -/
theorem finder_new_spec (needle : Slice) (c : Ctr) (hnv : needle.Valid) :
    ∃ tw c', Finder.new needle c = .ok tw c' ∧
      c'.steps ≤ c.steps + 6 * needle.len + 2 ∧
      (∀ b, b ∈ needle.toArray → tw.byteset.has b = true) ∧
      tw.criticalPos ≤ needle.len ∧
      (0 < needle.len → SoundPre needle.toArray tw.criticalPos tw.shift) ∧
      (∀ s, tw.shift = .large s → needle.len ≤ 2 * s) := by
  obtain ⟨tw, c', e, hst, hbs, hcert, hl, _⟩ := finder_new_full needle c hnv
  have hsz := Slice.toArray_size hnv
  exact ⟨tw, c', e, hst, hbs, hsz ▸ hcert.1.crit_le,
    fun hn => hcert.soundPre (hsz ▸ hn), fun s hs => (hl s hs).1⟩

/-- non-vacuity of the only hypothesis (`#eval` of the model on this needle, "abaab":
`crit=2 shift=small:3 steps=15`, as the Rust) -/
example : (Slice.ofMem ⟨1, 4096, "abaab".toUTF8.data⟩).Valid :=
  Slice.ofMem_valid _

end Memchr.TwoWay
