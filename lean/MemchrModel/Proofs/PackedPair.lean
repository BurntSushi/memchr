/-
The generic packed pair searcher `src/arch/generic/packedpair.rs` (`Finder<V>::{new, find,
find_prefilter}`) for every `Lawful V`.  `find` is described for an ARBITRARY search needle first
(`find_good_run`, `find_foreign_bad`: the answer is the lowest scanned offset where the pair matches
and the needle occurs, or the run stops at the out-of-allocation `end.sub(needle.len())`); C12 is
the case of a needle that carries the finder's two bytes (`find_leftmost`, `find_correct`), C05 and
C14 read the outcomes off (`find_ptrOob_or_ok`).  Steps: one chunk cost per chunk up to the one
that answers (`runCost`).
-/
import MemchrModel.Proofs.PackedPairFind
import MemchrModel.Proofs.Sensible
import MemchrModel.Model.Pair

namespace Memchr.PackedPair

open Memchr.Generic

variable {V : VecImpl}

/-- the value `Finder::new(needle, Pair { index1: i1, index2: i2 })` returns -/
def mkFinder (V : VecImpl) (needle : Slice) (i1 i2 : Nat) : Finder :=
  { index1 := i1, index2 := i2, b1 := needle.getD i1, b2 := needle.getD i2,
    minHaystackLen := max needle.len (max i1 i2 + V.bytes) }

theorem new_ok (needle : Slice) (i1 i2 : Nat) (c : Ctr) (h1 : i1 < needle.len)
    (h2 : i2 < needle.len) : Finder.new V needle i1 i2 c = .ok (mkFinder V needle i1 i2) c := by
  simp [Finder.new, Slice.get, h1, h2, mkFinder]

/-- what the proofs need from a finder: distinct indices (so that `max_index >= 1`) and a
`min_haystack_len` that covers both vector loads -/
structure FinderOk (V : VecImpl) (f : Finder) : Prop where
  idx_ne : f.index1 ≠ f.index2
  min_ge : max f.index1 f.index2 + V.bytes ≤ f.minHaystackLen

theorem mkFinder_ok (needle : Slice) (i1 i2 : Nat) (hne : i1 ≠ i2) :
    FinderOk V (mkFinder V needle i1 i2) :=
  ⟨hne, by simp only [mkFinder]; omega⟩

/-- the finder depends on the bytes of the needle only -/
theorem mkFinder_congr (V : VecImpl) {n n0 : Slice} (hb : n.toList = n0.toList) {i1 i2 : Nat}
    (h1 : i1 < n0.len) (h2 : i2 < n0.len) : mkFinder V n i1 i2 = mkFinder V n0 i1 i2 := by
  simp only [mkFinder, (Slice.same_bytes hb).1, Slice.getD_of_toList_eq hb h1,
    Slice.getD_of_toList_eq hb h2]

/-- `min_haystack_len` exceeds the needle by at most one vector, of at most 32 bytes -/
theorem mkFinder_minHaystackLen_le (L : Lawful V) {n : Slice} {i1 i2 : Nat}
    (h1 : i1 < n.len) (h2 : i2 < n.len) : (mkFinder V n i1 i2).minHaystackLen ≤ n.len + 32 :=
  Nat.max_le.mpr ⟨Nat.le_add_right _ _,
    Nat.add_le_add (Nat.max_le.mpr ⟨Nat.le_of_lt h1, Nat.le_of_lt h2⟩) L.bytes_le⟩

/-- the finder's byte pair matches the haystack at offset `q` -/
def Finder.CandAt (f : Finder) (hay : Slice) (q : Nat) : Prop :=
  hay.toArray[q + f.index1]? = some f.b1 ∧ hay.toArray[q + f.index2]? = some f.b2

/-- a position `find` can report: the pair matches and the search needle occurs -/
def Finder.HitAt' (f : Finder) (hay needle : Slice) (q : Nat) : Prop :=
  f.CandAt hay q ∧ Spec.OccAt hay.toArray needle.toArray q

theorem candO_iff (f : Finder) {hay : Slice} (hh : hay.Valid) (q : Nat)
    (hq : q + max f.index1 f.index2 < hay.len) :
    CandO f hay.mem hay.ptr q ↔ f.CandAt hay q := by
  unfold CandO candA Finder.CandAt
  rw [Slice.toArray_getElem?_byteAt hh _
      (Nat.lt_of_le_of_lt (Nat.add_le_add_left (Nat.le_max_left _ _) q) hq),
    Slice.toArray_getElem?_byteAt hh _
      (Nat.lt_of_le_of_lt (Nat.add_le_add_left (Nat.le_max_right _ _) q) hq),
    Nat.add_assoc, Nat.add_assoc]
  simp

theorem matchAt_iff_occAt {hay needle : Slice} (hh : hay.Valid) (hn : needle.Valid) (p : Nat) :
    MatchAt hay.mem needle hay.endPtr (hay.ptr + p) ↔
      Spec.OccAt hay.toArray needle.toArray p := by
  rw [Slice.occAt_iff_window hh hn, eq_comm]
  unfold MatchAt Slice.endPtr Slice.ptr
  rw [Nat.add_assoc, Nat.add_le_add_iff_left]

theorem hitO_iff (f : Finder) {hay needle : Slice} (hh : hay.Valid) (hn : needle.Valid)
    (q : Nat) (hq : q + max f.index1 f.index2 < hay.len) :
    HitO f hay.mem needle hay.ptr hay.endPtr q ↔ f.HitAt' hay needle q := by
  unfold HitO Finder.HitAt'
  rw [candO_iff f hh q hq, matchAt_iff_occAt hh hn]

theorem candAt_of_occAt {f : Finder} {hay needle : Slice} (hn : needle.Valid)
    (h1 : f.index1 < needle.len) (h2 : f.index2 < needle.len)
    (hb1 : f.b1 = needle.getD f.index1) (hb2 : f.b2 = needle.getD f.index2) {q : Nat}
    (ho : Spec.OccAt hay.toArray needle.toArray q) : f.CandAt hay q := by
  obtain ⟨-, hb⟩ := ho
  rw [Slice.toArray_size hn] at hb
  unfold Finder.CandAt
  rw [hb1, hb2]
  exact ⟨(hb _ h1).trans (Slice.toArray_getElem? hn _ h1),
    (hb _ h2).trans (Slice.toArray_getElem? hn _ h2)⟩

/-- number of haystack offsets whose pair lanes `find` / `find_prefilter` look at:
`0 .. len - min_haystack_len + BYTES - 1` -/
def Finder.scanned (V : VecImpl) (f : Finder) (hay : Slice) : Nat :=
  hay.len - f.minHaystackLen + V.bytes

/-- the haystack as the loops see it: `m` bytes followed by `min_haystack_len` more -/
theorem hay_split {f : Finder} {hay : Slice} (hlen : f.minHaystackLen ≤ hay.len) :
    ∃ m, hay.len = m + f.minHaystackLen ∧ hay.len - f.minHaystackLen = m ∧
      f.scanned V hay = m + V.bytes :=
  ⟨hay.len - f.minHaystackLen, (Nat.sub_add_cancel hlen).symm, rfl, rfl⟩

theorem geom_of (f : Finder) (hok : FinderOk V f) {hay : Slice} (hh : hay.Valid) {m : Nat}
    (hm : hay.len = m + f.minHaystackLen) : Geom V f hay.mem hay.ptr m hay.endPtr := by
  refine ⟨hh.ptr_le, ?_, hh.endPtr_le, hok.min_ge, ?_⟩
  · rw [Nat.add_assoc, ← hm]
    rfl
  · have := hok.min_ge
    have := hok.idx_ne
    omega

/-- every offset whose lane a chunk looks at has both pair bytes inside the haystack -/
theorem pair_in_range {f : Finder} (hok : FinderOk V f) {hay : Slice} {m q : Nat}
    (hm : hay.len = m + f.minHaystackLen) (hq : q < m + V.bytes) :
    q + max f.index1 f.index2 < hay.len := by
  have := hok.min_ge
  omega

theorem find_unfold (L : Lawful V) (f : Finder) (hay needle : Slice) (hh : hay.Valid) {m : Nat}
    (hm : hay.len = m + f.minHaystackLen) (c : Ctr) :
    ∃ all, KeepsFrom L 0 all ∧ find V f hay needle c =
      findLoop V f hay.mem needle hay.ptr hay.endPtr (hay.ptr + m) all hay.ptr c := by
  obtain ⟨all, hrun, hall⟩ := L.allExceptLS_zero c
  refine ⟨all, fun mk hmk => ⟨(hall mk hmk).1, fun i h => (hall mk hmk).2 i ▸ h,
    fun i _ => (hall mk hmk).2 i⟩, ?_⟩
  unfold find
  rw [assert_ok (decide_eq_true (hm ▸ Nat.le_add_left _ _ : hay.len ≥ f.minHaystackLen)),
    pure_bind', bind_ok hrun]
  simp only [Mem.padd_ok _ _ _ _ hh.ptr_le hh.endPtr_le, pure_bind',
    Mem.psub_eq (by rw [hm, Nat.add_assoc] : hay.ptr + m + f.minHaystackLen = hay.ptr + hay.len)
      (Nat.le_add_right_of_le hh.ptr_le) hh.endPtr_le]
  rfl

theorem findPrefilter_unfold (f : Finder) (hay : Slice) (hh : hay.Valid) {m : Nat}
    (hm : hay.len = m + f.minHaystackLen) (c : Ctr) :
    findPrefilter V f hay c =
      prefilterLoop V f hay.mem hay.ptr hay.endPtr (hay.ptr + m) hay.ptr c := by
  unfold findPrefilter
  rw [assert_ok (decide_eq_true (hm ▸ Nat.le_add_left _ _ : hay.len ≥ f.minHaystackLen))]
  simp only [Mem.padd_ok _ _ _ _ hh.ptr_le hh.endPtr_le, pure_bind',
    Mem.psub_eq (by rw [hm, Nat.add_assoc] : hay.ptr + m + f.minHaystackLen = hay.ptr + hay.len)
      (Nat.le_add_right_of_le hh.ptr_le) hh.endPtr_le]
  rfl

theorem find_too_small (f : Finder) (hay needle : Slice) (c : Ctr)
    (h : hay.len < f.minHaystackLen) :
    find V f hay needle c = .fault (.panic "packedpair::find: haystack too small") := by
  unfold find
  simp only [decide_eq_false (Nat.not_le.mpr h), assert_false, M.bind_run, fail_run]

theorem findPrefilter_too_small (f : Finder) (hay : Slice) (c : Ctr)
    (h : hay.len < f.minHaystackLen) :
    findPrefilter V f hay c =
      .fault (.panic "packedpair::find_prefilter: haystack too small") := by
  unfold findPrefilter
  simp only [decide_eq_false (Nat.not_le.mpr h), assert_false, M.bind_run, fail_run]

/-- value of `find` for an arbitrary search needle: the lowest scanned offset where the pair
matches and the search needle occurs -/
def FindRes' (V : VecImpl) (f : Finder) (hay needle : Slice) : Option Nat → Prop
  | some x => x < f.scanned V hay ∧ f.HitAt' hay needle x ∧ ∀ q, q < x → ¬ f.HitAt' hay needle q
  | none => ∀ q, q < f.scanned V hay → ¬ f.HitAt' hay needle q

theorem findRes'_iff (f : Finder) (hay needle : Slice) (r : Option Nat) :
    FindRes' V f hay needle r ↔ IsLeast (f.HitAt' hay needle) 0 (f.scanned V hay) r := by
  rw [IsLeast.zero_iff]
  cases r <;> exact Iff.rfl

/-- the `end.sub(needle.len())` of `find_in_chunk` -/
def siteEndSub : String := "find_in_chunk: end.sub(needle.len())"

/-- cost bound of `find`: chunks times the cost of one chunk -/
def findCost (V : VecImpl) (f : Finder) (hay needle : Slice) : Nat :=
  ((hay.len - f.minHaystackLen) / V.bytes + 2) * (1 + V.bytes * (needle.len / 4 + 3))

/-- the cost of a run that answers `r`: one chunk cost per chunk up to the one that answers; all
of them and one for the tail when the answer is `None` -/
def runCost (V : VecImpl) (f : Finder) (hay needle : Slice) (r : Option Nat) : Nat :=
  (r.getD (f.scanned V hay) / V.bytes + 1) * chunkCost V needle

theorem runCost_le (f : Finder) (hay needle : Slice) {r : Option Nat}
    (hlen : f.minHaystackLen ≤ hay.len) (h : FindRes' V f hay needle r) :
    runCost V f hay needle r ≤ findCost V f hay needle := by
  obtain ⟨m, -, hm', hsc⟩ := hay_split (V := V) hlen
  have e : findCost V f hay needle = (f.scanned V hay / V.bytes + 1) * chunkCost V needle := by
    unfold findCost chunkCost candCost
    rw [hsc, Nat.add_div_right _ V.bytes_pos, hm']
  rw [e]
  refine Nat.mul_le_mul_right _ (Nat.add_le_add_right (Nat.div_le_div_right ?_) 1)
  cases r with
  | none => exact Nat.le_refl _
  | some x => exact Nat.le_of_lt h.1

/-- `x / BYTES + 1` chunks lie at or before offset `x`; with `W` per chunk that is at most `W` per
byte up to the answer and three more -/
theorem runCost_le_scanned (f : Finder) (hay needle : Slice) {r : Option Nat} {W : Nat}
    (hW : chunkCost V needle ≤ W) (hlen : f.minHaystackLen ≤ hay.len) :
    runCost V f hay needle r ≤ W * (Fallback.scanned r hay.len + 3) := by
  rw [runCost, Nat.mul_comm W]
  refine Nat.mul_le_mul ?_ hW
  cases r with
  | some x =>
    exact Nat.succ_le_succ (Nat.le_trans (Nat.div_le_self x V.bytes) (Nat.le_add_right x 3))
  | none =>
    obtain ⟨m, hm, -, hsc⟩ := hay_split (V := V) hlen
    show f.scanned V hay / V.bytes + 1 ≤ hay.len + 3
    rw [hsc, Nat.add_div_right _ V.bytes_pos, hm]
    have := Nat.div_le_self m V.bytes
    omega

/-- `find` with any search needle that is not longer than the haystack's region up to the end of
the haystack returns normally: the lowest scanned offset where the pair matches and the search
needle occurs, at the cost of the chunks up to the answer. -/
theorem find_good_run (L : Lawful V) (f : Finder) (hok : FinderOk V f) (hay needle : Slice)
    (hh : hay.Valid) (hn : needle.Valid) (hlen : f.minHaystackLen ≤ hay.len)
    (hgood : needle.len ≤ hay.off + hay.len) (c : Ctr) :
    ∃ r c', find V f hay needle c = .ok r c' ∧ FindRes' V f hay needle r ∧
      c'.steps ≤ c.steps + runCost V f hay needle r := by
  obtain ⟨m, hm, -, hsc⟩ := hay_split (V := V) hlen
  have hg : hay.mem.base + needle.len ≤ hay.endPtr := by unfold Slice.endPtr; omega
  obtain ⟨all, hall, hrun⟩ := find_unfold L f hay needle hh hm c
  obtain ⟨r, c', hr, hres, hcost⟩ := findLoop_good L (geom_of f hok hh hm) hn hg hall 0 hay.ptr rfl
    c (Nat.zero_le _) (IsLeast.empty (Nat.le_refl _))
  refine ⟨r, c', hrun ▸ hr, ?_, ?_⟩
  · rw [findRes'_iff, hsc]
    exact hres.congr fun q _ hq => hitO_iff f hh hn q (pair_in_range hok hm hq)
  · rw [Nat.zero_div, Nat.zero_mul, Nat.add_zero] at hcost
    rw [runCost, hsc]
    exact hcost

/-- the same within the bound for the whole haystack -/
theorem find_foreign_good (L : Lawful V) (f : Finder) (hok : FinderOk V f) (hay needle : Slice)
    (hh : hay.Valid) (hn : needle.Valid) (hlen : f.minHaystackLen ≤ hay.len)
    (hgood : needle.len ≤ hay.off + hay.len) (c : Ctr) :
    ∃ r c', find V f hay needle c = .ok r c' ∧ FindRes' V f hay needle r ∧
      c'.steps ≤ c.steps + findCost V f hay needle := by
  obtain ⟨r, c', hr, hres, hcost⟩ := find_good_run L f hok hay needle hh hn hlen hgood c
  exact ⟨r, c', hr, hres,
    Nat.le_trans hcost (Nat.add_le_add_left (runCost_le f hay needle hlen hres) _)⟩

/-- the byte pair matches at an offset `q` whose chunk `[q - q % BYTES, ..)` belongs to the main
loop of `find` -/
def Finder.CandInMainLoop (V : VecImpl) (f : Finder) (hay : Slice) : Prop :=
  ∃ q, q ≤ hay.len - f.minHaystackLen + q % V.bytes ∧ f.CandAt hay q

/-- `find` with a search needle longer than the haystack's region up to the end of the
haystack: the first pair match in a main-loop chunk computes `end.sub(needle.len())` outside
the allocation (observation O2: undefined behaviour without a read); with no pair match the
result is `None`. -/
theorem find_foreign_bad (L : Lawful V) (f : Finder) (hok : FinderOk V f) (hay needle : Slice)
    (hh : hay.Valid) (hlen : f.minHaystackLen ≤ hay.len)
    (hbad : hay.off + hay.len < needle.len) (c : Ctr) :
    (f.CandInMainLoop V hay ∧ find V f hay needle c = .fault (.ptrOob siteEndSub)) ∨
    (¬ f.CandInMainLoop V hay ∧ ∃ c', find V f hay needle c = .ok none c') := by
  unfold Finder.CandInMainLoop
  obtain ⟨m, hm, hm', -⟩ := hay_split (V := V) hlen
  have hg : hay.endPtr < hay.mem.base + needle.len := by unfold Slice.endPtr; omega
  have hrange : ∀ q, q ≤ m + q % V.bytes → q + max f.index1 f.index2 < hay.len := fun q hq =>
    pair_in_range hok hm
      (Nat.lt_of_le_of_lt hq (Nat.add_lt_add_left (Nat.mod_lt q V.bytes_pos) m))
  obtain ⟨all, hall, hrun⟩ := find_unfold L f hay needle hh hm c
  rw [hrun, hm']
  rcases findLoop_bad L needle (geom_of f hok hh hm) hg hall 0 hay.ptr rfl c (Nat.zero_le _) with
    ⟨⟨d, hd, hcd⟩, hr⟩ | ⟨hnone, hr⟩
  · rw [Nat.zero_add] at hd hcd
    exact Or.inl ⟨⟨d, hd, (candO_iff f hh d (hrange d hd)).mp hcd⟩, hr⟩
  · refine Or.inr ⟨fun ⟨q, hq, hc⟩ => ?_, hr⟩
    have hnq := hnone q
    rw [Nat.zero_add] at hnq
    exact hnq hq ((candO_iff f hh q (hrange q hq)).mpr hc)

/-- The outcomes of `find` for an arbitrary search needle: the fault of `find_foreign_bad` under
exactly its condition, a normal return otherwise. -/
theorem find_ptrOob_or_ok (L : Lawful V) (f : Finder) (hok : FinderOk V f) (hay needle : Slice)
    (hh : hay.Valid) (hn : needle.Valid) (hlen : f.minHaystackLen ≤ hay.len) (c : Ctr) :
    ((hay.off + hay.len < needle.len ∧ f.CandInMainLoop V hay) ∧
      find V f hay needle c = .fault (.ptrOob siteEndSub)) ∨
    (¬ (hay.off + hay.len < needle.len ∧ f.CandInMainLoop V hay) ∧
      ∃ r c', find V f hay needle c = .ok r c') := by
  by_cases hg : needle.len ≤ hay.off + hay.len
  · obtain ⟨r, c', hr, -⟩ := find_good_run L f hok hay needle hh hn hlen hg c
    exact Or.inr ⟨fun h => Nat.not_lt.mpr hg h.1, r, c', hr⟩
  · rcases find_foreign_bad L f hok hay needle hh hlen (Nat.lt_of_not_le hg) c with
      ⟨hex, hr⟩ | ⟨hnone, c', hr⟩
    · exact Or.inl ⟨⟨Nat.lt_of_not_le hg, hex⟩, hr⟩
    · exact Or.inr ⟨fun h => hnone h.2, none, c', hr⟩

/-- **C05 (out of domain).** For an arbitrary search needle (any bytes, any length, unrelated
to the construction needle) and a haystack of at least `min_haystack_len` bytes, `find` either
returns normally or stops at the out-of-allocation `end.sub(needle.len())` (observation O2,
exactly when `find_ptrOob_iff` says). -/
theorem find_reads_ok (L : Lawful V) (f : Finder) (hok : FinderOk V f) (hay needle : Slice)
    (hh : hay.Valid) (hn : needle.Valid) (hlen : f.minHaystackLen ≤ hay.len) (c : Ctr) :
    (∃ r c', find V f hay needle c = .ok r c') ∨
    find V f hay needle c = .fault (.ptrOob siteEndSub) :=
  (find_ptrOob_or_ok L f hok hay needle hh hn hlen c).symm.imp And.right And.right

/-- For ANY search needle and a haystack of at least `min_haystack_len` bytes, `find` never
faults with a debug assertion, a panic, an arithmetic overflow, an out-of-bounds read or a
misaligned load; the only possible fault is the `ptrOob` of O2 at `end.sub(needle.len())`.
In particular the tail's `debug_assert!(overlap < V::BYTES)` is unreachable whatever the search
needle: `if overlap >= V::BYTES { return None; }` in front of it takes the case
`(hay.len - min_haystack_len) % BYTES = 0` (finding F2 of DESIGN.md 14.4). -/
theorem find_no_fault_but_ptrOob (L : Lawful V) (f : Finder) (hok : FinderOk V f)
    (hay needle : Slice) (hh : hay.Valid) (hn : needle.Valid)
    (hlen : f.minHaystackLen ≤ hay.len) (c : Ctr) :
    (∀ s, find V f hay needle c ≠ .fault (.debugAssert s)) ∧
    (∀ s, find V f hay needle c ≠ .fault (.panic s)) ∧
    (∀ s, find V f hay needle c ≠ .fault (.overflow s)) ∧
    (∀ r a l, find V f hay needle c ≠ .fault (.oobRead r a l)) ∧
    (∀ a w, find V f hay needle c ≠ .fault (.misaligned a w)) ∧
    (∀ s, find V f hay needle c = .fault (.ptrOob s) → s = siteEndSub) := by
  rcases find_reads_ok L f hok hay needle hh hn hlen c with ⟨r, c', hr⟩ | hr <;> rw [hr]
  · exact ⟨nofun, nofun, nofun, nofun, nofun, nofun⟩
  · exact ⟨nofun, nofun, nofun, nofun, nofun, fun _ h => by cases h; rfl⟩

/-- **O2, exactly.** `find` computes `end.sub(needle.len())` outside the haystack's allocation
iff the search needle is longer than the part of the region that ends with the haystack and
the byte pair matches at an offset `q` whose chunk `[q - q % BYTES, ..)` belongs to the main
loop. -/
theorem find_ptrOob_iff (L : Lawful V) (f : Finder) (hok : FinderOk V f) (hay needle : Slice)
    (hh : hay.Valid) (hn : needle.Valid) (hlen : f.minHaystackLen ≤ hay.len) (c : Ctr) :
    find V f hay needle c = .fault (.ptrOob siteEndSub) ↔
      hay.off + hay.len < needle.len ∧
        ∃ q, q ≤ hay.len - f.minHaystackLen + q % V.bytes ∧ f.CandAt hay q := by
  rcases find_ptrOob_or_ok L f hok hay needle hh hn hlen c with ⟨hO2, hr⟩ | ⟨hnot, r, c', hr⟩
  · exact iff_of_true hr hO2
  · exact iff_of_false (by rw [hr]; nofun) hnot

/-- A foreign search needle that is not longer than the haystack (so O2 is impossible): `find`
returns normally, with the lowest scanned offset where the pair matches and the search needle
occurs, within the cost bound. -/
theorem find_foreign_no_fault (L : Lawful V) (f : Finder) (hok : FinderOk V f)
    (hay needle : Slice) (hh : hay.Valid) (hn : needle.Valid)
    (hlen : f.minHaystackLen ≤ hay.len) (hnl : needle.len ≤ hay.len) (c : Ctr) :
    ∃ r c', find V f hay needle c = .ok r c' ∧ FindRes' V f hay needle r ∧
      c'.steps ≤ c.steps + findCost V f hay needle :=
  find_foreign_good L f hok hay needle hh hn hlen (by omega) c

/-- **C14.** For any search needle, `find` panics (at its `assert!`, and nowhere else) iff the
haystack is shorter than `min_haystack_len`. -/
theorem find_panics_iff (L : Lawful V) (f : Finder) (hok : FinderOk V f) (hay needle : Slice)
    (hh : hay.Valid) (hn : needle.Valid) (c : Ctr) :
    find V f hay needle c = .fault (.panic "packedpair::find: haystack too small") ↔
      hay.len < f.minHaystackLen := by
  constructor
  · intro h
    by_cases hlen : f.minHaystackLen ≤ hay.len
    · exact absurd h ((find_no_fault_but_ptrOob L f hok hay needle hh hn hlen c).2.1 _)
    · omega
  · exact find_too_small f hay needle c

theorem findCost_le (f : Finder) (hay needle : Slice) :
    findCost V f hay needle ≤
      (hay.len / V.bytes + 2) * (1 + V.bytes * (needle.len / 4 + 3)) :=
  Nat.mul_le_mul_right _ (Nat.add_le_add_right (Nat.div_le_div_right (Nat.sub_le _ _)) 2)

/-- `a / B + 2` chunks of `1 + B * K` steps each are linear in `a` -/
theorem chunks_linear (a B K : Nat) :
    (a / B + 2) * (1 + B * K) ≤ (K + 1) * a + 2 * (1 + B * K) := by
  have h1 : a / B * B ≤ a := Nat.div_mul_le_self a B
  have h2 : a / B ≤ a := Nat.div_le_self a B
  have h3 : a / B * (B * K) ≤ a * K := by
    rw [← Nat.mul_assoc]; exact Nat.mul_le_mul_right K h1
  rw [Nat.add_mul, Nat.mul_add (a / B), Nat.mul_one, Nat.add_mul K 1 a, Nat.one_mul,
    Nat.mul_comm K a]
  omega

/-- the bound of `find_cost` for a needle of at most `N` bytes, in the form
`constant * haystack.len() + constant` -/
theorem cost_linear {s s' len B n N : Nat} (hN : n ≤ N)
    (hs : s' ≤ s + (len / B + 2) * (1 + B * (n / 4 + 3))) :
    s' ≤ s + (N / 4 + 4) * len + 2 * (1 + B * (N / 4 + 3)) := by
  have hmono : 1 + B * (n / 4 + 3) ≤ 1 + B * (N / 4 + 3) :=
    Nat.add_le_add_left
      (Nat.mul_le_mul_left B (Nat.add_le_add_right (Nat.div_le_div_right hN) 3)) 1
  rw [Nat.add_assoc]
  exact Nat.le_trans hs (Nat.add_le_add_left
    (Nat.le_trans (Nat.mul_le_mul_left _ hmono) (chunks_linear len B (N / 4 + 3))) _)

/-- with `min_haystack_len` no larger than `Finder::new` makes it for this needle, every
occurrence lies among the scanned offsets -/
theorem occAt_scanned {f : Finder} {hay needle : Slice} (hh : hay.Valid) (hn : needle.Valid)
    (h1 : f.index1 < needle.len) (h2 : f.index2 < needle.len)
    (hmin : f.minHaystackLen ≤ max needle.len (max f.index1 f.index2 + V.bytes)) {q : Nat}
    (ho : Spec.OccAt hay.toArray needle.toArray q) : q < f.scanned V hay := by
  have := ho.1
  rw [Slice.toArray_size hh, Slice.toArray_size hn] at this
  have := V.bytes_pos
  unfold Finder.scanned
  omega

/-- **C12 for any suitable finder.** `find` returns the leftmost occurrence of every needle that
carries the finder's two bytes at the finder's two indices, provided `min_haystack_len` is not
larger than `Finder::new` would make it for this needle (then every occurrence is scanned).
This covers a finder built from another needle with the same two bytes, e.g. from a prefix.  The
steps are those of the chunks up to the answer (`runCost`). -/
theorem find_leftmost (L : Lawful V) (f : Finder) (hok : FinderOk V f) (hay needle : Slice)
    (hh : hay.Valid) (hn : needle.Valid) (h1 : f.index1 < needle.len) (h2 : f.index2 < needle.len)
    (hb1 : f.b1 = needle.getD f.index1) (hb2 : f.b2 = needle.getD f.index2)
    (hmin : f.minHaystackLen ≤ max needle.len (max f.index1 f.index2 + V.bytes))
    (hlen : f.minHaystackLen ≤ hay.len) (hnl : needle.len ≤ hay.len) (c : Ctr) :
    ∃ c', find V f hay needle c = .ok (Spec.leftmost hay.toArray needle.toArray) c' ∧
      FindRes' V f hay needle (Spec.leftmost hay.toArray needle.toArray) ∧
      c'.steps ≤ c.steps + runCost V f hay needle (Spec.leftmost hay.toArray needle.toArray) := by
  obtain ⟨r, c', hr, hres, hcost⟩ := find_good_run L f hok hay needle hh hn hlen
    (Nat.le_trans hnl (Nat.le_add_left _ _)) c
  obtain rfl := IsLeast.eq_leftmost (((findRes'_iff f hay needle r).mp hres).congr fun q _ _ =>
      ⟨fun h => h.2, fun ho => ⟨candAt_of_occAt hn h1 h2 hb1 hb2 ho, ho⟩⟩)
    fun q ho => occAt_scanned hh hn h1 h2 hmin ho
  exact ⟨c', hr, hres, hcost⟩

/-- **C12 (+ C13).** For the finder `new(needle, Pair{i1, i2})` built from `needle` with two
distinct in-range indices, `find(haystack, needle)` on a haystack of at least
`min_haystack_len` bytes returns the leftmost occurrence of `needle`, without any fault, in at
most `((len - min_haystack_len) / BYTES + 2) * (1 + BYTES * (needle.len / 4 + 3))` steps. -/
theorem find_correct (L : Lawful V) (hay needle : Slice) (hh : hay.Valid) (hn : needle.Valid)
    (i1 i2 : Nat) (hne : i1 ≠ i2) (h1 : i1 < needle.len) (h2 : i2 < needle.len)
    (f : Finder) (c0 c0' : Ctr) (hf : Finder.new V needle i1 i2 c0 = .ok f c0')
    (hlen : f.minHaystackLen ≤ hay.len) (c : Ctr) :
    ∃ c', find V f hay needle c = .ok (Spec.leftmost hay.toArray needle.toArray) c' ∧
      c'.steps ≤ c.steps + findCost V f hay needle := by
  rw [new_ok needle i1 i2 c0 h1 h2] at hf
  cases hf
  obtain ⟨c', hr, hres, hcost⟩ := find_leftmost L _ (mkFinder_ok needle i1 i2 hne) hay needle hh hn
    h1 h2 rfl rfl (Nat.le_refl _) hlen (Nat.le_trans (Nat.le_max_left _ _) hlen) c
  exact ⟨c', hr, Nat.le_trans hcost (Nat.add_le_add_left (runCost_le _ hay needle hlen hres) _)⟩

/-- **C13.** the bound of `find_correct` in the form
`(len / BYTES + 2) * (1 + BYTES * (needle.len / 4 + 3))`: linear in the haystack length for a bounded
needle length. -/
theorem find_cost (L : Lawful V) (hay needle : Slice) (hh : hay.Valid) (hn : needle.Valid)
    (i1 i2 : Nat) (hne : i1 ≠ i2) (h1 : i1 < needle.len) (h2 : i2 < needle.len)
    (f : Finder) (c0 c0' : Ctr) (hf : Finder.new V needle i1 i2 c0 = .ok f c0')
    (hlen : f.minHaystackLen ≤ hay.len) (c : Ctr) :
    ∃ r c', find V f hay needle c = .ok r c' ∧
      c'.steps ≤ c.steps + (hay.len / V.bytes + 2) * (1 + V.bytes * (needle.len / 4 + 3)) := by
  obtain ⟨c', hr, hc⟩ := find_correct L hay needle hh hn i1 i2 hne h1 h2 f c0 c0' hf hlen c
  exact ⟨_, c', hr, Nat.le_trans hc (Nat.add_le_add_left (findCost_le f hay needle) _)⟩

/-- value of `find_prefilter`: the lowest scanned offset where the byte pair matches -/
def PreRes' (V : VecImpl) (f : Finder) (hay : Slice) : Option Nat → Prop
  | some x => x < f.scanned V hay ∧ f.CandAt hay x ∧ ∀ q, q < x → ¬ f.CandAt hay q
  | none => ∀ q, q < f.scanned V hay → ¬ f.CandAt hay q

theorem preRes'_iff (f : Finder) (hay : Slice) (r : Option Nat) :
    PreRes' V f hay r ↔ IsLeast (f.CandAt hay) 0 (f.scanned V hay) r := by
  rw [IsLeast.zero_iff]
  cases r <;> exact Iff.rfl

/-- step bound of `find_prefilter`: one step per chunk -/
def preCost' (V : VecImpl) (f : Finder) (hay : Slice) : Option Nat → Nat
  | some x => x / V.bytes + 1
  | none => (hay.len - f.minHaystackLen) / V.bytes + 2

/-- one step per chunk, counted to the answer (to the end of the haystack for `None`) -/
theorem preCost'_le_div (V : VecImpl) (f : Finder) (hay : Slice) (r : Option Nat) :
    preCost' V f hay r ≤ r.getD hay.len / V.bytes + 2 := by
  cases r with
  | none => exact Nat.add_le_add_right (Nat.div_le_div_right (Nat.sub_le _ _)) 2
  | some x => exact Nat.le_succ _

/-- one step per chunk is at most one step per byte -/
theorem preCost'_le (V : VecImpl) (f : Finder) (hay : Slice) (r : Option Nat) :
    preCost' V f hay r ≤ Fallback.scanned r hay.len + 2 := by
  cases r with
  | none => exact Nat.add_le_add_right (Nat.le_trans (Nat.div_le_self _ _) (Nat.sub_le _ _)) 2
  | some x =>
    exact Nat.le_trans (Nat.add_le_add_right (Nat.div_le_self _ _) 1) (Nat.le_add_right _ 2)

/-- `find_prefilter` on a haystack of at least `min_haystack_len` bytes never faults and returns
the lowest offset among the scanned ones (`0 .. len - min_haystack_len + BYTES - 1`, which
includes the final chunk re-aligned to `end - min_haystack_len`) where the byte pair matches. -/
theorem findPrefilter_spec (L : Lawful V) (f : Finder) (hok : FinderOk V f) (hay : Slice)
    (hh : hay.Valid) (hlen : f.minHaystackLen ≤ hay.len) (c : Ctr) :
    ∃ r c', findPrefilter V f hay c = .ok r c' ∧ PreRes' V f hay r ∧
      c'.steps ≤ c.steps + preCost' V f hay r := by
  obtain ⟨m, hm, hm', hsc⟩ := hay_split (V := V) hlen
  obtain ⟨r, c', hr, hres, hcost⟩ := prefilterLoop_spec L (geom_of f hok hh hm) 0 hay.ptr rfl c
    (Nat.zero_le _) (IsLeast.empty (Nat.le_refl _))
  refine ⟨r, c', findPrefilter_unfold f hay hh hm c ▸ hr, ?_, ?_⟩
  · rw [preRes'_iff, hsc]
    exact hres.congr fun q _ hq => candO_iff f hh q (pair_in_range hok hm hq)
  · have e : preCost' V f hay r = r.getD (m + V.bytes) / V.bytes + 1 := by
      cases r with
      | some x => rfl
      | none =>
        show (hay.len - f.minHaystackLen) / V.bytes + 2 = (m + V.bytes) / V.bytes + 1
        rw [Nat.add_div_right _ V.bytes_pos, hm']
    rw [Nat.zero_div, Nat.add_zero] at hcost
    rw [e]
    exact hcost

/-- **C11 (+ C13).** For the finder built from `needle` with two distinct in-range indices
and a haystack of at least `min_haystack_len` bytes, `find_prefilter` never faults; a returned
candidate `x` has `hay[x + i1] = needle[i1]` and `hay[x + i2] = needle[i2]` (in range); every
occurrence `q` of `needle` forces a result `some x` with `x <= q`; hence `None` means there is
no occurrence. Steps: `x / BYTES + 1` for `Some(x)`, `(len - min_haystack_len) / BYTES + 2` for
`None`. -/
theorem findPrefilter_sound_mk (L : Lawful V) (hay needle : Slice) (hh : hay.Valid)
    (hn : needle.Valid) (i1 i2 : Nat) (hne : i1 ≠ i2) (h1 : i1 < needle.len)
    (h2 : i2 < needle.len) (hlen : (mkFinder V needle i1 i2).minHaystackLen ≤ hay.len)
    (c : Ctr) :
    ∃ r c', findPrefilter V (mkFinder V needle i1 i2) hay c = .ok r c' ∧
      (∀ x, r = some x → x + max i1 i2 < hay.len ∧
        hay.toArray[x + i1]? = needle.toArray[i1]? ∧
        hay.toArray[x + i2]? = needle.toArray[i2]?) ∧
      (∀ q, Spec.OccAt hay.toArray needle.toArray q → ∃ x, r = some x ∧ x ≤ q) ∧
      (r = none → ∀ q, ¬ Spec.OccAt hay.toArray needle.toArray q) ∧
      c'.steps ≤ c.steps + preCost' V (mkFinder V needle i1 i2) hay r := by
  have hok := mkFinder_ok (V := V) needle i1 i2 hne
  obtain ⟨r, c', hr, hres, hcost⟩ := findPrefilter_spec L _ hok hay hh hlen c
  have hres' := (preRes'_iff _ hay r).mp hres
  have hkey : ∀ q, Spec.OccAt hay.toArray needle.toArray q → ∃ x, r = some x ∧ x ≤ q :=
    fun q ho => hres'.le_of (candAt_of_occAt hn h1 h2 rfl rfl ho) (Nat.zero_le _)
      (occAt_scanned hh hn h1 h2 (Nat.le_refl _) ho)
  refine ⟨r, c', hr, ?_, hkey, ?_, hcost⟩
  · intro x hx
    subst hx
    obtain ⟨m, hm, -, hsc⟩ := hay_split (V := V) hlen
    exact ⟨pair_in_range hok hm (hsc ▸ hres'.lt_hi),
      hres'.holds.1.trans (Slice.toArray_getElem? hn i1 h1).symm,
      hres'.holds.2.trans (Slice.toArray_getElem? hn i2 h2).symm⟩
  · intro hnone q ho
    obtain ⟨x, hx, -⟩ := hkey q ho
    rw [hnone] at hx
    cases hx

/-- the same for whatever a run of `Finder::new` returned -/
theorem findPrefilter_sound (L : Lawful V) (hay needle : Slice) (hh : hay.Valid)
    (hn : needle.Valid) (i1 i2 : Nat) (hne : i1 ≠ i2) (h1 : i1 < needle.len)
    (h2 : i2 < needle.len) (f : Finder) (c0 c0' : Ctr)
    (hf : Finder.new V needle i1 i2 c0 = .ok f c0') (hlen : f.minHaystackLen ≤ hay.len)
    (c : Ctr) :
    ∃ r c', findPrefilter V f hay c = .ok r c' ∧
      (∀ x, r = some x → x + max i1 i2 < hay.len ∧
        hay.toArray[x + i1]? = needle.toArray[i1]? ∧
        hay.toArray[x + i2]? = needle.toArray[i2]?) ∧
      (∀ q, Spec.OccAt hay.toArray needle.toArray q → ∃ x, r = some x ∧ x ≤ q) ∧
      (r = none → ∀ q, ¬ Spec.OccAt hay.toArray needle.toArray q) ∧
      c'.steps ≤ c.steps + preCost' V f hay r := by
  rw [new_ok needle i1 i2 c0 h1 h2] at hf
  cases hf
  exact findPrefilter_sound_mk L hay needle hh hn i1 i2 hne h1 h2 hlen c

/-- **C14 for `find_prefilter`.** -/
theorem findPrefilter_panics_iff (L : Lawful V) (f : Finder) (hok : FinderOk V f) (hay : Slice)
    (hh : hay.Valid) (c : Ctr) :
    (findPrefilter V f hay c =
        .fault (.panic "packedpair::find_prefilter: haystack too small") ↔
      hay.len < f.minHaystackLen) ∧
    (f.minHaystackLen ≤ hay.len → ∃ r c', findPrefilter V f hay c = .ok r c') := by
  refine ⟨⟨?_, findPrefilter_too_small f hay c⟩, ?_⟩
  · intro h
    by_cases hlen : f.minHaystackLen ≤ hay.len
    · obtain ⟨r, c', hr, -⟩ := findPrefilter_spec L f hok hay hh hlen c
      rw [hr] at h; cases h
    · omega
  · intro hlen
    obtain ⟨r, c', hr, -⟩ := findPrefilter_spec L f hok hay hh hlen c
    exact ⟨r, c', hr⟩

section Examples

local instance (s : Slice) : Decidable s.Valid := by unfold Slice.Valid; infer_instance

/-- needle "abcdefgh" at address 1000 (region 1) -/
def exNeedle : Slice := Slice.ofMem { region := 1, base := 1000, bytes := "abcdefgh".toUTF8.data }
/-- a 40-byte haystack at address 64 containing the needle at offset 21 -/
def exHay : Slice :=
  Slice.ofMem { region := 0, base := 64, bytes := "xxabcdefgxxxxxabxxxxxabcdefghxxxxxxxxxxx".toUTF8.data }
/-- a foreign one-byte search needle -/
def exForeign : Slice := Slice.ofMem { region := 1, base := 1000, bytes := "z".toUTF8.data }

theorem exNeedle_len : exNeedle.len = 8 := by rfl

theorem exHay_len : exHay.len = 40 := by rfl

theorem exForeign_len : exForeign.len = 1 := by rfl

theorem exNeedle_lt : 7 < exNeedle.len := exNeedle_len ▸ (by decide : 7 < 8)

theorem exNew (V : VecImpl) :
    Finder.new V exNeedle 0 7 {} = .ok (mkFinder V exNeedle 0 7) {} :=
  new_ok exNeedle 0 7 {} (Nat.lt_trans (by decide) exNeedle_lt) exNeedle_lt

/-- `min_haystack_len = max(8, 7 + BYTES)` is at most the 40 bytes of `exHay` for vectors of at
most 32 bytes -/
theorem exMin_le (V : VecImpl) (h : V.bytes ≤ 32) :
    (mkFinder V exNeedle 0 7).minHaystackLen ≤ exHay.len := by
  rw [mkFinder, exNeedle_len, exHay_len]
  exact Nat.max_le.mpr ⟨by decide, Nat.le_trans (Nat.add_le_add_left h 7) (by decide)⟩

theorem exMin4 : (mkFinder Sensible.small4 exNeedle 0 1).minHaystackLen = 8 := by
  rw [mkFinder, exNeedle_len]
  rfl

/-- hypotheses of `find_correct` / `findPrefilter_sound` / `find_cost` with SSE2 vectors, the
pair `(0, 7)`: `min_haystack_len = 23 <= 40` -/
example : exHay.Valid ∧ exNeedle.Valid ∧ (0 : Nat) ≠ 7 ∧ 0 < exNeedle.len ∧ 7 < exNeedle.len ∧
    Finder.new Sensible.sse2 exNeedle 0 7 {} = .ok (mkFinder Sensible.sse2 exNeedle 0 7) {} ∧
    (mkFinder Sensible.sse2 exNeedle 0 7).minHaystackLen ≤ exHay.len :=
  ⟨Slice.ofMem_valid _, Slice.ofMem_valid _, by decide, Nat.lt_trans (by decide) exNeedle_lt,
    exNeedle_lt, exNew _, exMin_le _ (by decide)⟩

/-- hence, for instance (the spec evaluates to `some 21`): -/
example : ∃ c', find Sensible.sse2 (mkFinder Sensible.sse2 exNeedle 0 7) exHay exNeedle {} =
    .ok (some 21) c' := by
  obtain ⟨c', h, -⟩ := find_correct Sensible.lawful_sse2 exHay exNeedle (Slice.ofMem_valid _)
    (Slice.ofMem_valid _) 0 7 (by decide) (Nat.lt_trans (by decide) exNeedle_lt) exNeedle_lt _ {} {}
    (exNew _) (exMin_le _ (by decide)) {}
  have e : Spec.leftmost exHay.toArray exNeedle.toArray = some 21 := by decide
  exact ⟨c', e ▸ h⟩

/-- hypotheses of the foreign-needle theorems (`find_reads_ok`, `find_no_fault_but_ptrOob`,
`find_ptrOob_iff`, `find_foreign_no_fault`, `find_panics_iff`) with the 4-lane checked vector
type: the finder for "abcdefgh" with the pair `(0, 1)` has `min_haystack_len = 8`; the 40-byte
haystack and the one-byte foreign needle make the tail's overlap a whole vector
(`(40 - 8) % 4 = 0`, `1 + 4 <= 8`), the case in which it returns `None` early. -/
example : FinderOk Sensible.small4 (mkFinder Sensible.small4 exNeedle 0 1) ∧ exHay.Valid ∧
    exForeign.Valid ∧ (mkFinder Sensible.small4 exNeedle 0 1).minHaystackLen ≤ exHay.len ∧
    exForeign.len ≤ exHay.len := by
  refine ⟨mkFinder_ok _ _ _ (by decide), Slice.ofMem_valid _, Slice.ofMem_valid _, ?_, ?_⟩
  · rw [exMin4, exHay_len]; decide
  · rw [exForeign_len, exHay_len]; decide

end Examples

end Memchr.PackedPair

#print axioms Memchr.PackedPair.find_correct
#print axioms Memchr.PackedPair.find_cost
#print axioms Memchr.PackedPair.find_panics_iff
#print axioms Memchr.PackedPair.find_reads_ok
#print axioms Memchr.PackedPair.find_no_fault_but_ptrOob
#print axioms Memchr.PackedPair.find_ptrOob_iff
#print axioms Memchr.PackedPair.find_foreign_no_fault
#print axioms Memchr.PackedPair.find_foreign_good
#print axioms Memchr.PackedPair.find_foreign_bad
#print axioms Memchr.PackedPair.findPrefilter_spec
#print axioms Memchr.PackedPair.findPrefilter_sound
#print axioms Memchr.PackedPair.findPrefilter_panics_iff
