/-
One `Finder` / `FinderRev` shared by several threads (C15, substring part).

`Finder::find(&self, haystack)` takes the finder by shared reference and the finder has no
interior mutability (the per-search `PrefilterState` is created inside `find` and lives on the
caller's stack), so in the model a search is a function of the finder VALUE and leaves it
unchanged (`Finder.step cfg (.find hay) f h` returns `f`).  A concurrent use of one shared finder
is therefore a global order of `find` calls, each tagged with the thread that made it
(`Sched`); the lemmas here say that what thread `t` observes in ANY such order is what it
observes when it runs its own calls alone.

Only list bookkeeping lives here; the content comes from `Memmem.C16.finder_run_all` /
`Bridge3.finderRev_run_all` (any operation sequence observes the reference machine).
-/
import MemchrModel.Proofs.Memmem

namespace Memchr.SharedFinder

open Memchr.Memmem

/-- a global order of `find` calls on one shared finder: (thread, haystack) -/
abbrev Sched := List (Nat × Slice)

/-- the operation sequence the shared finder sees -/
def opsOf (s : Sched) : List FinderOp := s.map (fun p => FinderOp.find p.2)

/-- the calls of thread `t`, in its program order -/
def alone (t : Nat) (s : Sched) : Sched := s.filter (fun p => p.1 == t)

/-- what thread `t` observed: the outputs at the positions of its own calls -/
def project (t : Nat) : Sched → List Out → List Out
  | p :: s, o :: outs => if p.1 == t then o :: project t s outs else project t s outs
  | _, _ => []

theorem opsOf_ok (s : Sched) (hs : ∀ p ∈ s, p.2.Valid) : ∀ op ∈ opsOf s, op.Ok := by
  intro op hop
  simp only [opsOf, List.mem_map] at hop
  obtain ⟨p, hp, rfl⟩ := hop
  exact hs p hp

theorem alone_valid (t : Nat) (s : Sched) (hs : ∀ p ∈ s, p.2.Valid) :
    ∀ p ∈ alone t s, p.2.Valid := by
  intro p hp
  exact hs p (List.mem_filter.mp hp).1

/-- the reference machine on a `find`-only sequence: one output per call, each a function of the
needle bytes and THAT call's haystack -/
theorem refFinder_opsOf (x : Array UInt8) (s : Sched) :
    refFinder x (opsOf s) = s.map (fun p => Out.idx (Spec.leftmost p.2.toArray x)) := by
  induction s with
  | nil => rfl
  | cons p s ih => simp only [opsOf, List.map_cons, refFinder] at ih ⊢; rw [ih]

theorem refFinderRev_opsOf (x : Array UInt8) (s : Sched) :
    Bridge3.refFinderRev x (opsOf s) =
      s.map (fun p => Out.idx (Spec.rightmost p.2.toArray x)) := by
  induction s with
  | nil => rfl
  | cons p s ih => simp only [opsOf, List.map_cons, Bridge3.refFinderRev] at ih ⊢; rw [ih]

/-- projecting a per-call map onto thread `t` is the map over `t`'s own calls -/
theorem project_map (t : Nat) (g : Nat × Slice → Out) (s : Sched) :
    project t s (s.map g) = (alone t s).map g := by
  induction s with
  | nil => rfl
  | cons p s ih =>
    simp only [List.map_cons, project, alone, List.filter_cons]
    by_cases h : (p.1 == t) = true
    · simp only [h, if_true, List.map_cons]; rw [ih]; rfl
    · simp only [h, if_false, Bool.false_eq_true]; rw [ih]; rfl

/-- A machine `m` that on every `find`-only sequence returns one output per call, a function `g`
of that call alone: in any global order, thread `t` observes what it observes when its own calls
run alone. -/
theorem shared_of_run_all {σ : Type} {m : List FinderOp → M (List Out × σ × Heap)}
    {g : Nat × Slice → Out}
    (hrun : ∀ s : Sched, (∀ p ∈ s, p.2.Valid) → ∀ c, ∃ f' h' c',
      m (opsOf s) c = .ok (s.map g, f', h') c')
    (s : Sched) (hs : ∀ p ∈ s, p.2.Valid) (c : Ctr) :
    ∃ outs f' h' c', m (opsOf s) c = .ok (outs, f', h') c' ∧ outs = s.map g ∧
      ∀ t, ∃ f1 h1 c1, m (opsOf (alone t s)) c = .ok (project t s outs, f1, h1) c1 := by
  obtain ⟨f', h', c', hrun0⟩ := hrun s hs c
  refine ⟨_, f', h', c', hrun0, rfl, fun t => ?_⟩
  obtain ⟨f1, h1, c1, hrun1⟩ := hrun (alone t s) (alone_valid t s hs) c
  exact ⟨f1, h1, c1, by rw [project_map]; exact hrun1⟩

/-- a shared `FinderRev` (`find` = `rfind`) -/
theorem shared_finder_rev (cfg : Api.Cfg) (needle : Slice) (hn : needle.Valid) (s : Sched)
    (hs : ∀ p ∈ s, p.2.Valid) (h : Heap) (c : Ctr) :
    ∃ outs f' h' c',
      (FinderRev.new needle >>= fun f => FinderRev.run cfg (opsOf s) f h) c =
        .ok (outs, f', h') c' ∧
      outs = s.map (fun p => Out.idx (Spec.rightmost p.2.toArray needle.toArray)) ∧
      ∀ t, ∃ f1 h1 c1,
        (FinderRev.new needle >>= fun f => FinderRev.run cfg (opsOf (alone t s)) f h) c =
          .ok (project t s outs, f1, h1) c1 :=
  shared_of_run_all (m := fun ops => FinderRev.new needle >>= fun f => FinderRev.run cfg ops f h)
    (fun s' hs' c =>
      let ⟨f', h', c', hrun, _⟩ :=
        Bridge3.finderRev_run_all cfg needle hn (opsOf s') (opsOf_ok s' hs') h c
      ⟨f', h', c', refFinderRev_opsOf _ s' ▸ hrun⟩)
    s hs c

/-- `find(&self)` leaves the shared finder as it was: the model's step returns the very same
finder value and heap (there is nothing a concurrent reader could see change). -/
theorem find_keeps_finder (cfg : Api.Cfg) (hay : Slice) (f : Finder) (h : Heap) (c : Ctr)
    (o : Option Out) (f' : Finder) (h' : Heap) (c' : Ctr)
    (hstep : f.step cfg (.find hay) h c = .ok (o, f', h') c') : f' = f ∧ h' = h := by
  simp only [Finder.step, bind, M.bind, pure, M.pure] at hstep
  split at hstep
  · simp only [Res.ok.injEq, Prod.mk.injEq] at hstep
    exact ⟨hstep.1.2.1.symm, hstep.1.2.2.symm⟩
  · cases hstep

end Memchr.SharedFinder
