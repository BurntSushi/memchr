/-
Two-Way, forward direction: the two outer search loops (`find_small_imp`, `find_large_imp`)
relative to an abstract loop invariant.  `LoopInv` lists what must be justified each time the
Rust advances `pos`; instantiating `Inv` with "no occurrence starts before `pos`" gives
correctness under the certificate (`Proofs/TwoWayCert.lean`), instantiating it with `True` gives
soundness of a reported match without any certificate.  `find_spec` is `find_with_prefilter`
as a whole (dispatch on the shift, empty needle) in these terms.

The same walk counts the steps, in budget form (`budget_trans`): a loop entered at `pos` with
counter `a` ends with `c'.steps + Φ ≤ a + R` for a potential `Φ` that grows with `pos`, and for each
way an iteration can end one lemma about variables says that what the iteration spent is covered by
the growth of `Φ`.  There are two regimes.  Without a prefilter a byte costs `3`: in `Large` because
an iteration that compares the whole needle advances by `shift >= len / 2`, in `Small` because the
period memory keeps what lies before `μ = max crit shift` from being compared again
(`Φ = 3 * pos + μ`).  A prefilter is priced per byte it consumes (`StratPaid`: `G` steps per byte;
`StratCost` gives `G = 1025`).  In `Large` that adds `G` to the price of a byte and changes nothing
else: `Φ = (G + 3) * min pos len`, one clause with `G` quantified, and `G = 0` is the regime without
a prefilter.  In `Small` a prefilter that ran resets the memory, so the argument above is lost
whatever the price: an iteration that matches the whole right part may cost `len + 1` and advance by
`period` only.  By `GapOK` (a property of the needle, `Proofs/CostTwoWayGap.lean`) such iterations
are more than `len / 4` apart, so `4` steps per byte set aside since the last one pay for the next:
`Φ = 1031 * pos + debt`, `G + 6` per byte, stated for `G = 1025`.  The two arguments for `Small` use
different potentials and disjoint facts, hence the two clauses of `SmallBound`.
-/
import MemchrModel.Proofs.TwoWayLemmas

namespace Memchr.TwoWay

open Memchr

/-- closure properties of an abstract loop invariant `Inv pos` under the ways the forward
loops advance `pos` (`step` is `period` resp. `shift`), and of `Done` -/
structure LoopInv (tw : TwoWay) (needle haystack : Slice) (step : Nat) (Inv : Nat → Prop)
    (Done : Prop) : Prop where
  done : ∀ q, Inv q → haystack.len < q + needle.len → Done
  bs : ∀ q, Inv q → q + needle.len ≤ haystack.len →
    tw.byteset.has (haystack.getD (q + (needle.len - 1))) = false → Inv (q + needle.len)
  right : ∀ q i, Inv q → q + needle.len ≤ haystack.len → tw.criticalPos ≤ i → i < needle.len →
    MatchR haystack needle q tw.criticalPos i → needle.getD i ≠ haystack.getD (q + i) →
    Inv (q + (i - tw.criticalPos + 1))
  left : ∀ q m, Inv q → q + needle.len ≤ haystack.len →
    MatchR haystack needle q tw.criticalPos needle.len → m < needle.len →
    needle.getD m ≠ haystack.getD (q + m) → Inv (q + step)

/-- What a forward loop that was entered with the prefilter `pre` hands back: the prefilter keeps
its strategy (and stays `None`), a reported `Some(q)` is an occurrence with `Inv q`, `None` comes
with `Done`, and the answer and the final counter are within the step bounds `B`. -/
structure LoopPost (needle haystack : Slice) (strat : Slice → M (Option Nat)) (Inv : Nat → Prop)
    (Done : Prop) (pre : Option Pre) (B : Option Nat × Option Pre → Ctr → Prop)
    (x : Option Nat × Option Pre) (c' : Ctr) : Prop where
  preOK : PreOK strat x.2
  preNone : pre = none → x.2 = none
  hit : ∀ q, x.1 = some q → Inv q ∧ Occ haystack needle q
  miss : x.1 = none → Done
  steps : B x c'

section
variable {tw : TwoWay} {needle haystack : Slice} {strat : Slice → M (Option Nat)}
  {Inv : Nat → Prop} {Done : Prop}

/-- one more round: the loop went on with the prefilter `pre1` that the round left, and the rest of
the run was within `B1` -/
theorem LoopPost.of_next {pre pre1 : Option Pre}
    {B B1 : Option Nat × Option Pre → Ctr → Prop} {x : Option Nat × Option Pre} {c' : Ctr}
    (h : LoopPost needle haystack strat Inv Done pre1 B1 x c') (hp : pre = none → pre1 = none)
    (hB : B1 x c' → B x c') : LoopPost needle haystack strat Inv Done pre B x c' :=
  ⟨h.preOK, fun e => h.preNone (hp e), h.hit, h.miss, hB h.steps⟩

/-- what is known in case there is a prefilter stays known for the prefilter `pre1` a round
leaves: `pre1` is `None` if `pre` was -/
theorem of_ne_none {pre pre1 : Option Pre} {P : Prop} (hnext : pre = none → pre1 = none)
    (h : pre ≠ none → P) : pre1 ≠ none → P :=
  fun hne => h fun hp => hne (hnext hp)

/-! ### step accounting of the forward `Large` loop

The potential is `(G + 3) * min pos H`, `H` the haystack length; `min` because a `shift` longer
than the needle (`SoundPre` does not exclude it) may carry the window beyond the haystack.  `a` is
the counter when the iteration starts, `b1` after the prefilter block, which moved the window by
`delta`, `b` after the comparisons.  `round` serves every way an iteration goes on; a search ends
with a `hit`, with the prefilter's `None`, which consumed the rest of the haystack (`none`), or at
the loop `exit`, nothing spent and the whole haystack scanned. -/

/-- the one nonlinear fact: `d + 1` bytes at `G` for the prefilter and `e` at `3` for the search
lie within `pos + d + e <= m` bytes at `G + 3` -/
theorem large_bytes {G pos d e m : Nat} (hm : pos + d + e ≤ m) (he : 1 ≤ e) :
    (G + 3) * pos + G * (d + 1) + 3 * e ≤ (G + 3) * m := by
  have h1 := Nat.mul_le_mul_left (G + 3) hm
  have h2 := Nat.mul_le_mul_left G (Nat.add_le_add_left he d)
  rw [Nat.add_assoc, Nat.mul_add, Nat.add_mul G 3 (d + e)] at h1
  omega

/-- an iteration that spends `k <= 2 * e` steps on comparisons is paid for by `e >= 1` bytes
beyond those the prefilter consumed -/
theorem large_pays {a b1 b G k delta e pos m : Nat} (h1 : b1 ≤ a + 1 + G * (delta + 1))
    (hb : b ≤ b1 + k) (hk : k ≤ 2 * e) (he : 1 ≤ e) (hm : pos + delta + e ≤ m) :
    b + (G + 3) * pos ≤ a + (G + 3) * m := by
  have := large_bytes (G := G) hm he
  omega

/-- An iteration that spends `k <= 2 * adv` steps on comparisons and then moves the window by
`adv >= 1`.  Should the move leave the haystack, the window that was compared did fit, and
`k <= n`, so the `n` bytes under it pay instead. -/
theorem large_round {a b1 b G k delta adv pos n H : Nat} (h1 : b1 ≤ a + 1 + G * (delta + 1))
    (hb : b ≤ b1 + k) (hk : k ≤ 2 * adv) (hkn : k ≤ n) (hadv : 1 ≤ adv) (hn : 0 < n)
    (hfit : pos + delta + n ≤ H) :
    b + (G + 3) * min pos H ≤ a + (G + 3) * min (pos + delta + adv) H := by
  have hle : pos ≤ H := by omega
  rw [Nat.min_eq_left hle]
  by_cases h : adv ≤ n
  · exact large_pays h1 hb hk hadv
      (Nat.le_min.mpr ⟨Nat.le_refl _, Nat.le_trans (Nat.add_le_add_left h _) hfit⟩)
  · exact large_pays h1 hb (Nat.le_trans hkn (Nat.le_mul_of_pos_left n Nat.two_pos)) hn
      (Nat.le_min.mpr ⟨Nat.add_le_add_left (Nat.le_of_not_le h) _, hfit⟩)

theorem large_hit {a b1 b G k delta pos n H : Nat} (h1 : b1 ≤ a + 1 + G * (delta + 1))
    (hb : b ≤ b1 + k) (hkn : k ≤ n) (hle : pos ≤ H) :
    b + (G + 3) * min pos H ≤ a + ((G + 3) * (pos + delta + 1) + n + 1) := by
  rw [Nat.min_eq_left hle]
  have := large_bytes (G := G) (e := 1) (Nat.le_refl (pos + delta + 1)) (Nat.le_refl _)
  omega

theorem large_none {a b1 G pos n H : Nat} (h1 : b1 ≤ a + 1 + G * (H - pos)) (hle : pos ≤ H) :
    b1 + (G + 3) * min pos H ≤ a + ((G + 3) * H + n + 1) := by
  rw [Nat.min_eq_left hle]
  obtain ⟨d, rfl⟩ := Nat.exists_eq_add_of_le hle
  rw [Nat.add_sub_cancel_left] at h1
  rw [Nat.mul_add, Nat.add_mul G 3 d]
  omega

theorem large_exit {a G pos n H : Nat} :
    a + (G + 3) * min pos H ≤ a + ((G + 3) * H + n + 1) := by
  have := Nat.mul_le_mul_left (G + 3) (Nat.min_le_right pos H)
  omega

/-- **`find_large_imp`**, with any prefilter and without: every iteration pays for itself out of
the amount it advances `pos` by (`shift >= len / 2` for a full right match). -/
theorem largeLoop_spec (hn : 0 < needle.len) (s : Nat) (hcrit : tw.criticalPos ≤ needle.len)
    (hs1 : 1 ≤ s) (hI : LoopInv tw needle haystack s Inv Done)
    (pre : Option Pre) (pos : Nat) (c : Ctr)
    (hstrat : pre ≠ none → StratOK haystack strat Inv Done)
    (hpre : PreOK strat pre) (hinv : Inv pos) :
    Holds (Finder.largeLoop tw needle haystack hn s (needle.len - 1) pre pos) c
      (LoopPost needle haystack strat Inv Done pre fun x c' =>
        ∀ G, (pre ≠ none → StratPaid haystack strat G) → needle.len ≤ 2 * s →
          c'.steps + (G + 3) * min pos haystack.len ≤
            c.steps + ((G + 3) * Fallback.scanned x.1 haystack.len + needle.len + 1)) := by
  fun_induction Finder.largeLoop tw needle haystack hn s (needle.len - 1) pre pos
    generalizing c with
  | case1 pre pos h ih1 ih2 ih3 =>
    have hle : pos ≤ haystack.len := Nat.le_trans (Nat.le_add_right _ _) h
    apply Holds.tick_bind
    apply Holds.bind (prefilterStep_spec "find_large_imp" pre pos _ hn h hpre hstrat hI.done hinv)
    rintro ⟨pre1, st⟩ c1 ⟨hpre1, hnone1, hst0, hst1⟩
    have hnext : pre = none → pre1 = none := fun hp => (hnone1 hp).1
    have hstrat1 := of_ne_none hnext hstrat
    cases st with
    | none =>
      exact Holds.pure ⟨hpre1, hnext, nofun, fun _ => (hst0 rfl).1,
        fun G hq _ => large_none ((hst0 rfl).2 G hq) hle⟩
    | some dr =>
      obtain ⟨delta, ran⟩ := dr
      obtain ⟨hinv1, hfit, _, hk1⟩ := hst1 delta ran rfl
      apply Holds.get_bind (last_fits hn hfit)
      apply contains_bind
      cases hin : tw.byteset.has (haystack.getD (pos + delta + (needle.len - 1))) with
      | false =>
        refine Holds.mono (ih1 pre1 delta c1 hstrat1 hpre1 (hI.bs _ hinv1 hfit hin))
          fun x c' hx => hx.of_next hnext fun h5 G hq hs => ?_
        exact budget_trans (large_round (k := 0) (hk1 G hq) (Nat.le_refl _) (Nat.zero_le _)
          (Nat.zero_le _) hn hn hfit) (h5 G (of_ne_none hnext hq) hs)
      | true =>
        apply Holds.bind (fwdCmp_spec "find_large_imp" needle haystack (pos + delta)
          tw.criticalPos c1 hfit)
        rintro i c2 ⟨hi1, hi2, hi3, hi4, hstep2, _⟩
        refine Holds.ite (fun hilt => ?_) (fun hilt => ?_)
        · apply Holds.csub_bind hi1
          refine Holds.mono (ih2 pre1 delta i (i - tw.criticalPos) c2 hstrat1 hpre1
            (hI.right _ i hinv1 hfit hi1 hilt hi3 (hi4 hilt)))
            fun x c' hx => hx.of_next hnext fun h5 G hq hs => ?_
          exact budget_trans (large_round (hk1 G hq) (Nat.le_of_eq hstep2) (le_two_mul_succ _)
            (Nat.le_trans (Nat.sub_le _ _) (Nat.le_of_lt hilt)) (Nat.succ_pos _) hn hfit)
            (h5 G (of_ne_none hnext hq) hs)
        · obtain rfl : i = needle.len := Nat.le_antisymm (hi2 hcrit) (Nat.le_of_not_lt hilt)
          apply Holds.bind (largeBackCmp_spec needle haystack (pos + delta) tw.criticalPos c2 hfit
            hcrit)
          rintro all c3 ⟨ha1, ha2, hstep3, _⟩
          rw [hstep2, Nat.add_assoc] at hstep3
          have hk : needle.len - tw.criticalPos + tw.criticalPos ≤ needle.len :=
            Nat.le_of_eq (Nat.sub_add_cancel hcrit)
          cases all with
          | true =>
            refine Holds.pure ⟨hpre1, hnext, ?_, nofun,
              fun G hq _ => large_hit (hk1 G hq) hstep3 hk hle⟩
            rintro q ⟨⟩
            exact ⟨hinv1, hfit, (ha1 rfl).append hi3⟩
          | false =>
            obtain ⟨m, hm1, hm2⟩ := ha2 rfl
            rw [if_neg Bool.false_ne_true]
            refine Holds.dite (fun hs0 => absurd hs0 (Nat.ne_of_gt hs1)) (fun hs0 => ?_)
            refine Holds.mono (ih3 pre1 delta needle.len hs0 c3 hstrat1 hpre1
              (hI.left _ m hinv1 hfit hi3 (Nat.lt_of_lt_of_le hm1 hcrit) hm2))
              fun x c' hx => hx.of_next hnext fun h5 G hq hs => ?_
            exact budget_trans (large_round (hk1 G hq) hstep3 (Nat.le_trans hk hs) hk hs1 hn hfit)
              (h5 G (of_ne_none hnext hq) hs)
  | case2 pre pos h =>
    exact Holds.pure ⟨hpre, fun hp => hp, nofun, fun _ => hI.done pos hinv (Nat.lt_of_not_le h),
      fun _ _ _ => large_exit⟩

/-! ### step accounting of the forward `Small` loop without a prefilter

The potential is `3 * pos + μ`, `μ = max crit shift` the index where the comparison of the right
part starts (the period memory covers what lies before it); `ν` is the `μ` of the next iteration.
Without a prefilter the block changes nothing (`h0`: the window stays, the comparison starts at
`i0 = μ`, no step).  One lemma per way an iteration ends: `bs` the byte-set skip (the window moves
by `n`), `mis` a mismatch in the right part at `i` (by `i - crit + 1`), `per` a mismatch in the left
part after both parts were compared (by the period `p`, with memory `n - p`), and `hit`. -/

theorem small_bs {a b1 pos delta n μ i0 ν : Nat} (h0 : delta = 0 ∧ μ = i0 ∧ b1 = a + 1)
    (hn : 0 < n) (hi0 : i0 ≤ n) : b1 + (3 * pos + μ) ≤ a + (3 * (pos + delta + n) + ν) := by
  omega

theorem small_mis {a b1 b pos delta i crit μ i0 ν : Nat}
    (h0 : delta = 0 ∧ μ = i0 ∧ b1 = a + 1) (hb : b = b1 + (i - i0)) (hi : i0 ≤ i)
    (hc : crit ≤ i0) (hν : crit ≤ ν) :
    b + (3 * pos + μ) ≤ a + (3 * (pos + delta + (i - crit + 1)) + ν) := by
  omega

/-- both parts compared: `1 + (n - μ) + (crit - j)` steps -/
theorem small_spent {a b1 b n crit j delta μ i0 : Nat} (h0 : delta = 0 ∧ μ = i0 ∧ b1 = a + 1)
    (hb : b = b1 + ((n - i0) + (crit - j))) (hi0 : i0 ≤ n) : b + μ ≤ a + 1 + n + crit := by omega

theorem small_per {a b pos delta n p crit μ ν : Nat} (hb : b + μ ≤ a + 1 + n + crit)
    (hd : delta = 0) (hcp : crit ≤ p) (hp1 : 1 ≤ p) (hν : n - p ≤ ν) :
    b + (3 * pos + μ) ≤ a + (3 * (pos + delta + p) + ν) := by
  omega

theorem small_hit {a b pos delta n crit μ H : Nat} (hb : b + μ ≤ a + 1 + n + crit)
    (hcn : crit ≤ n) (hfit : pos + delta + n ≤ H) :
    b + (3 * pos + μ) ≤ a + (3 * H + 2 * n + 1) := by omega

/-! ### step accounting of the forward `Small` loop with a prefilter

The potential is `1031 * pos + D`, `D = debt len pos lastF` what is still to be set aside for the
next full-right-match iteration (`D'` at the next iteration): the search returns there, or by
`GapOK` the previous one lies more than `len / 4` back and nothing is owed.  `paid_round` serves
every way an iteration goes on, the `debt_*` lemmas supplying its `hk`; `paid_hit`, `paid_none`,
`paid_exit` the ways a search ends, as in `Large`. -/

/-- Two positions `q < q'` at both of which the whole right part `needle[crit..]` matches, the
second of which is not an occurrence of the needle, are more than `len / 4` apart.  (A property
of the needle and its critical factorisation: see `Proofs/CostTwoWayGap.lean`.) -/
def GapOK (hay needle : Slice) (crit : Nat) : Prop :=
  ∀ q q', q < q' → MatchR hay needle q crit needle.len → MatchR hay needle q' crit needle.len →
    (∃ t, t < needle.len ∧ needle.getD t ≠ hay.getD (q' + t)) → needle.len + 1 ≤ 4 * (q' - q)

/-- what is still to be set aside for the next full-right-match iteration: its `m` comparisons,
less `4` per byte advanced since the last one (`lastF`); nothing for the first one, which the
constant of the bound pays -/
def debt (m pos : Nat) : Option Nat → Nat
  | none => 0
  | some q => m - 4 * (pos - q)

theorem debt_le (m pos : Nat) (lastF : Option Nat) : debt m pos lastF ≤ m := by
  cases lastF with
  | none => exact Nat.zero_le _
  | some q => exact Nat.sub_le _ _

/-- the debt falls by at most `4` per byte the window moves -/
theorem debt_le_add (m : Nat) (lastF : Option Nat) {pos delta adv : Nat} :
    debt m pos lastF ≤ debt m (pos + delta + adv) lastF + 4 * (delta + adv) := by
  cases lastF with
  | none => exact Nat.zero_le _
  | some q =>
    have : pos + delta + adv - q ≤ pos - q + (delta + adv) := by omega
    simp only [debt]
    omega

theorem le_debt_some (m q p : Nat) : m ≤ debt m (q + p) (some q) + 4 * p := by
  simp only [debt]; omega

/-- once `len / 4` bytes lie behind the window at `pos + delta`, the move by `delta` covers what
was owed at `pos` -/
theorem debt_covered {m pos delta : Nat} {lastF : Option Nat}
    (h : ∀ q, lastF = some q → m ≤ 4 * (pos + delta - q)) : debt m pos lastF ≤ 4 * delta := by
  cases lastF with
  | none => exact Nat.zero_le _
  | some q =>
    have := h q rfl
    have : pos + delta - q ≤ pos - q + delta := by omega
    simp only [debt]
    omega

/-- a full right match whose `kc <= n` comparisons find the debt `D` covered; it leaves the debt
`D'` of a match `p` bytes back -/
theorem debt_renewed {D D' kc n delta p : Nat} (hD : D ≤ 4 * delta) (hkc : kc ≤ n)
    (hD' : n ≤ D' + 4 * p) : D + kc ≤ D' + 4 * (delta + p) + p := by omega

/-- the two comparisons of an iteration (`k2` bytes of the right part from `i0 >= crit` up to `i`,
then `k3` of the left part) read at most the needle length -/
theorem both_parts_le {k2 k3 i0 i crit n : Nat} (h2 : k2 + i0 = i) (hi : i ≤ n) (h3 : k3 ≤ crit)
    (hc : crit ≤ i0) : k2 + k3 ≤ n := by omega

/-- One iteration of `find_small_imp` pays for itself at `1031` steps per byte: `1` for the loop,
`1025 * (delta + 1)` for the prefilter block, which moves the window by `delta`, and `k` for
comparisons after which the window moves by `adv >= 1`; the comparisons are paid out of what was
set aside, `4` per byte advanced, and one more step per byte (`1031 = 1 + 1025 + 4 + 1`). -/
theorem paid_round {a b1 b k delta adv pos D D' : Nat} (h1 : b1 ≤ a + 1 + 1025 * (delta + 1))
    (hb : b ≤ b1 + k) (hadv : 1 ≤ adv) (hk : D + k ≤ D' + 4 * (delta + adv) + adv) :
    b + (1031 * pos + D) ≤ a + (1031 * (pos + delta + adv) + D') := by
  omega

theorem paid_hit {a b1 b k delta pos D n : Nat} (h1 : b1 ≤ a + 1 + 1025 * (delta + 1))
    (hb : b ≤ b1 + k) (hk : k ≤ n) (hD : D ≤ n) :
    b + (1031 * pos + D) ≤ a + (1031 * (pos + delta + 1) + 2 * n + 1) := by
  omega

theorem paid_none {a b1 pos D n H : Nat} (h1 : b1 ≤ a + 1 + 1025 * (H - pos)) (hle : pos ≤ H)
    (hD : D ≤ n) : b1 + (1031 * pos + D) ≤ a + (1031 * H + 2 * n + 1) := by
  omega

theorem paid_exit {a pos D n H : Nat} (hle : pos ≤ H) (hD : D ≤ n) :
    a + (1031 * pos + D) ≤ a + (1031 * H + 2 * n + 1) := by
  omega

/-- The two step bounds of `find_small_imp` entered at `pos` with memory `shift` and counter `a`,
each with its potential.  `nopre`: without a prefilter `3` per byte.  `paid`: with a prefilter that
is paid for at `1025` per byte, under `GapOK`, `1031` per byte, for every `lastF` that is a full
right match before `pos` (or `none`). -/
structure SmallBound (tw : TwoWay) (needle haystack : Slice) (strat : Slice → M (Option Nat))
    (pre : Option Pre) (pos shift a : Nat) (x : Option Nat × Option Pre) (c' : Ctr) : Prop where
  nopre : pre = none →
    c'.steps + (3 * pos + max tw.criticalPos shift) ≤ a + (3 * haystack.len + 2 * needle.len + 1)
  paid : (pre ≠ none → StratPaid haystack strat 1025) → GapOK haystack needle tw.criticalPos →
    ∀ lastF : Option Nat,
      (∀ q, lastF = some q → q < pos ∧ MatchR haystack needle q tw.criticalPos needle.len) →
      c'.steps + (1031 * pos + debt needle.len pos lastF) ≤
        a + (1031 * Fallback.scanned x.1 haystack.len + 2 * needle.len + 1)

/-- **`find_small_imp`**, with any prefilter and without. -/
theorem smallLoop_spec (hn : 0 < needle.len) (p : Nat) (hcrit : tw.criticalPos < needle.len)
    (hp1 : 1 ≤ p) (hpn : p ≤ needle.len) (hcp : tw.criticalPos ≤ p)
    (hper : ∀ t, t + p < needle.len → needle.getD t = needle.getD (t + p))
    (hI : LoopInv tw needle haystack p Inv Done)
    (pre : Option Pre) (pos shift : Nat) (c : Ctr)
    (hstrat : pre ≠ none → StratOK haystack strat Inv Done)
    (hpre : PreOK strat pre) (hinv : Inv pos) (hle : pos ≤ haystack.len)
    (hshift : shift < needle.len) (hmem : MatchR haystack needle pos 0 shift) :
    Holds (Finder.smallLoop tw needle haystack hn p (needle.len - 1) pre pos shift) c
      (LoopPost needle haystack strat Inv Done pre
        (SmallBound tw needle haystack strat pre pos shift c.steps)) := by
  fun_induction Finder.smallLoop tw needle haystack hn p (needle.len - 1) pre pos shift
    generalizing c with
  | case1 pre pos shift h ih1 ih2 ih3 =>
    apply Holds.tick_bind
    apply Holds.bind (prefilterStep_spec "find_small_imp" pre pos _ hn h hpre hstrat hI.done hinv)
    rintro ⟨pre1, st⟩ c1 ⟨hpre1, hnone1, hst0, hst1⟩
    have hnext : pre = none → pre1 = none := fun hp => (hnone1 hp).1
    have hstrat1 := of_ne_none hnext hstrat
    cases st with
    | none =>
      exact Holds.pure ⟨hpre1, hnext, nofun, fun _ => (hst0 rfl).1,
        fun hp => (by cases (hnone1 hp).2.1),
        fun hq _ _ _ => paid_none ((hst0 rfl).2 _ hq) hle (debt_le _ _ _)⟩
    | some dr =>
      obtain ⟨delta, ran⟩ := dr
      obtain ⟨hinv1, hfit, hran, hk1⟩ := hst1 delta ran rfl
      simp only []
      -- the state after the prefilter block
      generalize hsh : (if ran = true then 0 else shift) = shift1
      generalize hi0 : (if ran = true then tw.criticalPos else max tw.criticalPos shift) = i0
      obtain ⟨hle1, hci0, hi0n, hmem1, hright'⟩ := small_after_prefilter hsh hi0 hran
        (Nat.le_of_lt hcrit) (Nat.le_of_lt hshift) hmem
      have hshift1 : shift1 < needle.len := Nat.lt_of_le_of_lt hle1 hshift
      -- without a prefilter nothing changed
      have hd0 : pre = none →
          delta = 0 ∧ max tw.criticalPos shift = i0 ∧ c1.steps = c.steps + 1 := fun hp => by
        obtain ⟨_, h2, rfl⟩ := hnone1 hp
        cases h2
        exact ⟨rfl, hi0, rfl⟩
      -- a full right match before `pos` lies before the window wherever it moves
      have hF' : ∀ {lastF : Option Nat}, (∀ q, lastF = some q →
            q < pos ∧ MatchR haystack needle q tw.criticalPos needle.len) →
          ∀ adv q, lastF = some q →
            q < pos + delta + adv ∧ MatchR haystack needle q tw.criticalPos needle.len :=
        fun hF adv q hq => ⟨Nat.lt_of_lt_of_le (hF q hq).1
          (Nat.le_trans (Nat.le_add_right _ _) (Nat.le_add_right _ _)), (hF q hq).2⟩
      apply Holds.get_bind (last_fits hn hfit)
      apply contains_bind
      cases hin : tw.byteset.has (haystack.getD (pos + delta + (needle.len - 1))) with
      | false =>
        refine Holds.mono (ih1 pre1 delta c1 hstrat1 hpre1 (hI.bs _ hinv1 hfit hin) hfit hn
          (MatchR.empty _ _ _ _)) fun x c' hx => hx.of_next hnext fun h5 =>
            ⟨fun hp => ?_, fun hq hgap lastF hF => ?_⟩
        · exact budget_trans (small_bs (hd0 hp) hn hi0n) (h5.nopre (hnext hp))
        · exact budget_trans (paid_round (k := 0) (hk1 _ hq) (Nat.le_refl _) hn
            (Nat.le_add_right_of_le (debt_le_add _ lastF)))
            (h5.paid (of_ne_none hnext hq) hgap lastF (hF' hF _))
      | true =>
        apply Holds.bind (fwdCmp_spec "find_small_imp" needle haystack (pos + delta) i0 c1 hfit)
        rintro i c2 ⟨hi1, hi2, hi3, hi4, hstep2, _⟩
        have hci : tw.criticalPos ≤ i := Nat.le_trans hci0 hi1
        have hright : MatchR haystack needle (pos + delta) tw.criticalPos i := hright' i hi3
        refine Holds.ite (fun hilt => ?_) (fun hilt => ?_)
        · apply Holds.csub_bind hci
          refine Holds.mono (ih2 pre1 delta i (i - tw.criticalPos) c2 hstrat1 hpre1
            (hI.right _ i hinv1 hfit hci hilt hright (hi4 hilt))
            (advance_fits hfit (mismatch_advance_le hilt)) hn (MatchR.empty _ _ _ _))
            fun x c' hx => hx.of_next hnext fun h5 =>
              ⟨fun hp => ?_, fun hq hgap lastF hF => ?_⟩
          · exact budget_trans (small_mis (hd0 hp) hstep2 hi1 hci0 (Nat.le_max_left _ _))
              (h5.nopre (hnext hp))
          · -- the comparison cost `i - i0 <= i - crit`, less than the advance
            exact budget_trans (paid_round (hk1 _ hq) (Nat.le_of_eq hstep2) (Nat.succ_pos _)
              (Nat.add_le_add (debt_le_add _ lastF)
                (Nat.le_succ_of_le (Nat.sub_le_sub_left hci0 i))))
              (h5.paid (of_ne_none hnext hq) hgap lastF (hF' hF _))
        · obtain rfl : i = needle.len := Nat.le_antisymm (hi2 hi0n) (Nat.le_of_not_lt hilt)
          apply Holds.bind (smallBackCmp_spec needle haystack (pos + delta) shift1 tw.criticalPos
            c2 hfit hcrit)
          rintro j c3 ⟨hj1, hj2, hj3, hj4, hstep3, _⟩
          rw [hstep2, Nat.add_assoc] at hstep3
          have hspent := fun hp => small_spent (μ := max tw.criticalPos shift) (hd0 hp) hstep3 hi0n
          have hkc : needle.len - i0 + (tw.criticalPos - j) ≤ needle.len :=
            both_parts_le (Nat.sub_add_cancel hi0n) (Nat.le_refl _) (Nat.sub_le _ _) hci0
          -- the continuation after a left mismatch at `m`
          have hmiss : ∀ m, m < needle.len → needle.getD m ≠ haystack.getD (pos + delta + m) →
              Holds (csub "find_small_imp: needle.len() - period" needle.len p >>= fun shift' =>
                if hp : p = 0 then fail (Fault.panic "find_small_imp: no progress (period = 0)")
                else Finder.smallLoop tw needle haystack hn p (needle.len - 1) pre1
                  (pos + delta + p) shift') c3
                (LoopPost needle haystack strat Inv Done pre
                  (SmallBound tw needle haystack strat pre pos shift c.steps)) := by
            intro m hm1 hm2
            apply Holds.csub_bind hpn
            refine Holds.dite (fun hp0 => absurd hp0 (Nat.ne_of_gt hp1)) (fun hp0 => ?_)
            refine Holds.mono (ih3 pre1 delta needle.len (needle.len - p) hp0 c3 hstrat1 hpre1
              (hI.left _ m hinv1 hfit hright hm1 hm2) (advance_fits hfit hpn) (Nat.sub_lt hn hp1)
              (memory_after_period hper hcp hright))
              fun x c' hx => hx.of_next hnext fun h5 =>
                ⟨fun hp => ?_, fun hq hgap lastF hF => ?_⟩
            · exact budget_trans (small_per (hspent hp) (hd0 hp).1 hcp hp1 (Nat.le_max_right _ _))
                (h5.nopre (hnext hp))
            · -- nothing is owed at this full right match: it is the first one, or `GapOK`
              have hD : debt needle.len pos lastF ≤ 4 * delta :=
                debt_covered fun q hq => Nat.le_of_succ_le (hgap q (pos + delta)
                  (Nat.lt_of_lt_of_le (hF q hq).1 (Nat.le_add_right _ _)) (hF q hq).2 hright
                  ⟨m, hm1, hm2⟩)
              exact budget_trans (paid_round (hk1 _ hq) (Nat.le_of_eq hstep3) hp1
                (debt_renewed hD hkc (le_debt_some needle.len (pos + delta) p)))
                (h5.paid (of_ne_none hnext hq) hgap (some (pos + delta))
                  (by rintro q ⟨⟩; exact ⟨Nat.lt_add_of_pos_right hp1, hright⟩))
          refine Holds.ite (fun hjs => ?_) (fun hjs => ?_)
          · apply Holds.get_bind hshift1
            apply Holds.get_bind (Nat.lt_of_lt_of_le (Nat.add_lt_add_left hshift1 _) hfit)
            apply Holds.pure_bind
            refine Holds.ite (fun heq => ?_)
              (fun heq => hmiss shift1 hshift1 (mt beq_iff_eq.mpr heq))
            refine Holds.pure ⟨hpre1, hnext, ?_, nofun,
              fun hp => small_hit (hspent hp) (Nat.le_of_lt hcrit) hfit,
              fun hq _ _ _ => paid_hit (hk1 _ hq) (Nat.le_of_eq hstep3) hkc (debt_le _ _ _)⟩
            rintro q ⟨⟩
            -- memory below `shift1`, `shift1` itself, the left part above `j <= shift1`, the
            -- right part
            exact ⟨hinv1, hfit, ((hmem1.append (MatchR.single (eq_of_beq heq))).append
              (hj2.mono (Nat.succ_le_succ hjs) (Nat.le_refl _))).append
              (hright.mono (Nat.le_succ _) (Nat.le_refl _))⟩
          · apply Holds.pure_bind
            rw [if_neg Bool.false_ne_true]
            exact hmiss j (Nat.lt_of_le_of_lt hj1 hcrit) (hj3.resolve_left hjs)
  | case2 pre pos shift h =>
    exact Holds.pure ⟨hpre, fun hp => hp, nofun, fun _ => hI.done pos hinv (Nat.lt_of_not_le h),
      fun _ => by omega, fun _ _ _ _ => paid_exit hle (debt_le _ _ _)⟩

end

/-- the budget of a whole run as a bound on the final counter (the potential the run was entered
with is dropped), in the shape `find_spec` states it -/
theorem le_of_budget {f w a x y z : Nat} (h : f + w ≤ a + (x + y + z)) : f ≤ a + x + y + z := by
  rw [← Nat.add_assoc, ← Nat.add_assoc] at h
  exact Nat.le_trans (Nat.le_add_right f w) h

theorem loopInv_trivial (tw : TwoWay) (needle haystack : Slice) (step : Nat) :
    LoopInv tw needle haystack step (fun _ => True) True :=
  ⟨fun _ _ _ => trivial, fun _ _ _ _ => trivial, fun _ _ _ _ _ _ _ _ => trivial,
    fun _ _ _ _ _ _ _ => trivial⟩

/-- The two step bounds of a whole search entered with counter `a`, as `SmallBound` has them for
the `Small` loop: without a prefilter `3` steps per byte of the haystack; with a prefilter that is
paid for at `1025` steps per byte it consumed (`StratPaid`), `1031` per byte scanned, given `GapOK`
in the `Small` case. -/
structure FindBound (tw : TwoWay) (needle haystack : Slice) (strat : Slice → M (Option Nat))
    (pre : Option Pre) (a : Nat) (x : Option Nat × Option Pre) (c' : Ctr) : Prop where
  nopre : pre = none → c'.steps ≤ a + 3 * haystack.len + 2 * needle.len + 1
  paid : (pre ≠ none → StratPaid haystack strat 1025) →
    (∀ p, tw.shift = .small p → GapOK haystack needle tw.criticalPos) →
    c'.steps ≤ a + 1031 * Fallback.scanned x.1 haystack.len + 2 * needle.len + 1

/-- **`find_with_prefilter` relative to an abstract loop invariant.**  The search never faults;
a reported `Some(q)` is an occurrence with `Inv q`, `None` comes with `Done`, and the steps are
within `FindBound` (for a `Large` shift: when `needle.len <= 2 * shift`, which the constructor
guarantees).  The certificate (`find_of_cert`) and soundness alone (`find_sound`) are instances. -/
theorem find_spec (tw : TwoWay) (needle haystack : Slice) (pre : Option Pre) (c : Ctr)
    (strat : Slice → M (Option Nat)) (hnv : needle.Valid) (Inv : Nat → Prop) (Done : Prop)
    (hsp : 0 < needle.len → SoundPre needle.toArray tw.criticalPos tw.shift)
    (hI : ∀ step, tw.shift = .small step ∨ tw.shift = .large step →
      LoopInv tw needle haystack step Inv Done)
    (hpre : PreOK strat pre) (hstrat : pre ≠ none → StratOK haystack strat Inv Done)
    (hinv : Inv 0) :
    Holds (Finder.findWithPrefilter tw pre haystack needle) c
      (LoopPost needle haystack strat Inv Done pre fun x c' =>
        (∀ s, tw.shift = .large s → needle.len ≤ 2 * s) →
          FindBound tw needle haystack strat pre c.steps x c') := by
  by_cases h0 : needle.len = 0
  · refine ⟨(some 0, pre), c, ?_, hpre, fun h => h, ?_, nofun, fun _ => ⟨?_, ?_⟩⟩
    · unfold Finder.findWithPrefilter Finder.findSmallImp Finder.findLargeImp
      cases tw.shift <;> simp only [h0, dite_true] <;> rfl
    · rintro q ⟨⟩
      exact ⟨hinv, by rw [h0]; exact Nat.zero_le _,
        fun t _ ht => absurd ht (h0 ▸ Nat.not_lt_zero t)⟩
    · omega
    · omega
  · have hn : 0 < needle.len := Nat.pos_of_ne_zero h0
    have hsp' := hsp hn
    have hsz : needle.toArray.size = needle.len := Slice.toArray_size hnv
    unfold Finder.findWithPrefilter
    cases hshift : tw.shift with
    | small p =>
      rw [hshift, SoundPre, hsz] at hsp'
      obtain ⟨hc, hper, hcp, hpn⟩ := hsp'
      simp only [Finder.findSmallImp, h0, dite_false]
      refine Holds.mono (smallLoop_spec hn p hc hper.1 hpn hcp (per_getD hnv hper)
        (hI p (Or.inl hshift)) pre (pos := 0) (shift := 0) c hstrat hpre hinv (Nat.zero_le _) hn
        (MatchR.empty _ _ _ _)) fun x c' hx => hx.of_next id fun h5 _ => ?_
      exact ⟨fun hp => le_of_budget (h5.nopre hp),
        fun hq hgap => le_of_budget (h5.paid hq (hgap p hshift) none nofun)⟩
    | large s =>
      rw [hshift, SoundPre, hsz] at hsp'
      obtain ⟨hc, hs1⟩ := hsp'
      simp only [Finder.findLargeImp, h0, dite_false]
      refine Holds.mono (largeLoop_spec hn s hc hs1 (hI s (Or.inr hshift)) pre (pos := 0) c hstrat
        hpre hinv) fun x c' hx => hx.of_next id fun h5 hh => ⟨fun hp => ?_, fun hq _ => ?_⟩
      · have := h5 0 (fun hne => absurd hp hne) (hh s rfl)
        -- a reported occurrence lies inside the haystack
        have := Fallback.scanned_le (Nat.le_refl haystack.len) fun q hq =>
          Nat.lt_of_lt_of_le (Nat.lt_add_of_pos_right hn) (hx.hit q hq).2.1
        omega
      · have := h5 1025 hq (hh s rfl)
        omega

end Memchr.TwoWay
