/-
C08 (and its steps, C13) for `FindIter` / `FindRevIter`.  An iterator state denotes the list of
matches still to come, whose head and tail one `next` computes (the unfolding equations of
`Spec/Greedy.lean`).  So `k` calls of `next` yield the first `k` entries of `Spec.greedyFwd` /
`Spec.greedyRev` and then `None` forever, their steps telescope against a potential of the position
(`nextsRun_of_head_tail`, `Proofs/OpSim.lean`), the counting loop returns the length of the list,
and `size_hint` brackets it.  The pure reference machines `refFwd` / `refRev`, with which
`Proofs/Memmem.lean` compares the iterator op machines, are defined here and the same is shown of
them.
-/
import MemchrModel.Proofs.MemmemFinder
import MemchrModel.Spec.Greedy
import MemchrModel.Proofs.OpSim

namespace Memchr.Memmem

/-! ### C08 forward, pure part: the reference machine and `Spec.greedyFwd` -/

/-- the formula of `FindIter::size_hint` -/
def hintOf (hayLen nLen pos : Nat) : Nat × Option Nat :=
  if hayLen < pos then (0, some 0)
  else
    match nLen with
    | 0 => (usizeSatAdd (hayLen - pos) 1, usizeCheckedAdd (hayLen - pos) 1)
    | nl => (0, some ((hayLen - pos) / nl))

/-- reference `FindIter`: the state is `pos` alone -/
def refFwd (hay x : Array UInt8) : List IterOp → Nat → List Out
  | [], _ => []
  | .next :: ops, pos =>
    match Spec.leftmostFrom hay x pos (hay.size + 1 - pos) with
    | none => .idx none :: refFwd hay x ops pos
    | some i => .idx (some i) :: refFwd hay x ops (i + max x.size 1)
  | .sizeHint :: ops, pos =>
    .hint (hintOf hay.size x.size pos).1 (hintOf hay.size x.size pos).2 :: refFwd hay x ops pos
  | .clone :: ops, pos => refFwd hay x ops pos
  | .intoOwned :: ops, pos => refFwd hay x ops pos

/-- the `next` arm of `refFwd`, the result and the new position apart -/
theorem refFwd_next (hay x : Array UInt8) (ops : List IterOp) (pos : Nat) :
    refFwd hay x (.next :: ops) pos =
      .idx (Spec.leftmostFrom hay x pos (hay.size + 1 - pos)) ::
        refFwd hay x ops (match Spec.leftmostFrom hay x pos (hay.size + 1 - pos) with
          | none => pos
          | some i => i + max x.size 1) := by
  simp only [refFwd]
  cases Spec.leftmostFrom hay x pos (hay.size + 1 - pos) <;> rfl

/-- head and tail of the matches from `pos` on, the tail in the terms of `refFwd_next` -/
theorem greedyFwdFrom_head_tail (hay x : Array UInt8) (pos : Nat) :
    (Spec.greedyFwdFrom hay x pos (hay.size + 1)).head? =
      Spec.leftmostFrom hay x pos (hay.size + 1 - pos) ∧
    (Spec.greedyFwdFrom hay x pos (hay.size + 1)).tail =
      Spec.greedyFwdFrom hay x (match Spec.leftmostFrom hay x pos (hay.size + 1 - pos) with
        | none => pos
        | some i => i + max x.size 1) (hay.size + 1) := by
  rw [Spec.greedyFwdFrom_unfold hay x pos]
  cases hl : Spec.leftmostFrom hay x pos (hay.size + 1 - pos) with
  | none => exact ⟨rfl, by rw [Spec.greedyFwdFrom_none hl]; rfl⟩
  | some i => exact ⟨rfl, by rw [Nat.max_comm]; rfl⟩

/-- **C08 (pure)**: `k` calls of `next()` from position `pos` yield the first `k` entries of the
greedy sequence from `pos` followed by `None`s. -/
theorem refFwd_nexts (hay x : Array UInt8) (k pos : Nat) :
    refFwd hay x (List.replicate k .next) pos =
      (List.range k).map
        (fun i => Out.idx ((Spec.greedyFwdFrom hay x pos (hay.size + 1))[i]?)) :=
  nexts_of_head_tail (rest := fun pos => Spec.greedyFwdFrom hay x pos (hay.size + 1))
    (Inv := fun _ => True) (fun _ => rfl) (fun r _ =>
      let ⟨hh, ht⟩ := greedyFwdFrom_head_tail hay x r
      ⟨_, trivial, ht.symm, fun ops => by rw [hh, refFwd_next]⟩) k pos trivial

/-- **C08.find_iter (pure)**: from the start the `next()` results are `Spec.greedyFwd` and then
`None` forever. -/
theorem refFwd_greedy (hay x : Array UInt8) (k : Nat) :
    refFwd hay x (List.replicate k .next) 0 =
      (List.range k).map (fun i => Out.idx ((Spec.greedyFwd hay x)[i]?)) :=
  refFwd_nexts hay x k 0

/-- **C08 (pure)**: `size_hint` brackets the number of matches still to come, in every state -/
theorem hint_brackets (hay x : Array UInt8) (pos : Nat) :
    (hintOf hay.size x.size pos).1 ≤ (Spec.greedyFwdFrom hay x pos (hay.size + 1)).length ∧
    ∀ hi, (hintOf hay.size x.size pos).2 = some hi →
      (Spec.greedyFwdFrom hay x pos (hay.size + 1)).length ≤ hi := by
  unfold hintOf
  by_cases hp : hay.size < pos
  · rw [if_pos hp, Spec.greedyFwdFrom_past hp]
    exact ⟨Nat.le_refl _, fun hi _ => Nat.zero_le _⟩
  · rw [if_neg hp]
    have hp' : pos ≤ hay.size := Nat.le_of_not_lt hp
    cases hx : x.size with
    | zero =>
      -- `m` names `hay.size - pos + 1`, the number of offsets left
      obtain ⟨m, hm, hm'⟩ : ∃ m, pos + m = hay.size + 1 ∧ hay.size - pos + 1 = m :=
        ⟨hay.size - pos + 1, by omega, rfl⟩
      rw [Spec.greedyFwdFrom_empty hx (hay.size + 1) pos m hm (hm ▸ Nat.le_add_left _ _)]
      simp only [List.length_map, List.length_range, usizeSatAdd, usizeCheckedAdd, hm']
      refine ⟨by split <;> omega, fun hi h => ?_⟩
      split at h
      · cases h
      · cases h; exact Nat.le_refl _
    | succ n =>
      refine ⟨Nat.zero_le _, fun hi h => ?_⟩
      cases h
      rw [← hx]
      have hx0 : 0 < x.size := hx ▸ Nat.succ_pos n
      exact (Nat.le_div_iff_mul_le hx0).mpr
        (Nat.le_sub_of_add_le (Spec.greedyFwdFrom_length_mul_le hx0 _ pos hp'))

/-! ### C08 forward: the model iterator -/

theorem occAt_drop {hay n : Slice} (hh : hay.Valid) (hn : n.Valid) {pos : Nat}
    (hp : pos ≤ hay.len) (q : Nat) :
    Spec.OccAt (TwoWay.tailFrom hay pos).toArray n.toArray q ↔
      Spec.OccAt hay.toArray n.toArray (pos + q) :=
  (TwoWay.occ_iff (Slice.drop_valid hh hp) hn q).trans
    ((TwoWay.occ_tailFrom hp q).trans (TwoWay.occ_iff hh hn (pos + q)).symm)

theorem leftmost_drop {hay n : Slice} (hh : hay.Valid) (hn : n.Valid) {pos : Nat}
    (hp : pos ≤ hay.len) :
    (Spec.leftmost (TwoWay.tailFrom hay pos).toArray n.toArray).map (pos + ·) =
      Spec.leftmostFrom hay.toArray n.toArray pos (hay.toArray.size + 1 - pos) := by
  have hsz : (TwoWay.tailFrom hay pos).toArray.size + 1 = hay.toArray.size + 1 - pos := by
    rw [Slice.toArray_size (s := TwoWay.tailFrom hay pos) (Slice.drop_valid hh hp),
      Slice.toArray_size hh]
    exact (Nat.sub_add_comm hp).symm
  -- both sides are the least offset in `[pos, hay.len + 1)` at which the needle occurs in `hay`
  have h := ((Spec.leftmost_isLeast _ n.toArray).congr fun j _ _ => occAt_drop hh hn hp j).shift
    (a := pos)
  exact (hsz ▸ h).unique (Spec.leftmostFrom_isLeast hay.toArray n.toArray pos _)

/-- a forward iterator over `hay` for the bytes of `n0` (any position, any prefilter state) -/
def FindIter.GoodFor (n0 hay : Slice) (it : FindIter) : Prop :=
  it.haystack = hay ∧ it.finder.GoodFor n0

/-- a `None` answer after `d ≤ L` scanned bytes is within the budget of a search of `L` bytes, and
the potential `Φ` stays -/
theorem none_budget {s s' Φ a d L b e : Nat} (hk : s' ≤ s + (a * d + b + e)) (hd : d ≤ L) :
    s' + Φ ≤ s + Φ + (a * L + b + e) := by
  have := Nat.mul_le_mul_left a hd
  omega

/-- a match at `pos + idx`, found in `idx + 1` scanned bytes, pays for itself out of the
`idx + max n 1` bytes the position moves by -/
theorem fwdSome_budget {s s' L pos idx n : Nat}
    (hk : s' ≤ s + (1031 * (idx + 1) + 17 * n + 2000)) (hfit : pos + idx + n ≤ L) :
    s' + 1048 * (L + 1 - (pos + idx + max n 1)) ≤ s + 1048 * (L + 1 - pos) + 2000 := by
  omega

/-- one `next()`: the leftmost occurrence at or after `pos`; `pos` moves past it.  Its steps are
those of the one search of `&haystack[pos..]`: counted against the potential `1048` per byte of
haystack left, a `Some` answer costs at most `2000`, a `None` answer at most one search of the
whole haystack (C13). -/
theorem FindIter.next_run (cfg : Api.Cfg) {n0 hay : Slice} (hn0 : n0.Valid) (hh : hay.Valid)
    {it : FindIter} (hg : it.GoodFor n0 hay) (c : Ctr) :
    ∃ x c', it.next cfg c = .ok x c' ∧
      x.1 = Spec.leftmostFrom hay.toArray n0.toArray it.pos (hay.toArray.size + 1 - it.pos) ∧
      x.2.GoodFor n0 hay ∧ x.2.finder = it.finder ∧
      x.2.pos = (match x.1 with
        | none => it.pos
        | some i => i + max n0.toArray.size 1) ∧
      (PackedOk n0 it.finder.searcher →
        c'.steps + 1048 * (hay.len + 1 - x.2.pos) ≤ c.steps + 1048 * (hay.len + 1 - it.pos) +
          match x.1 with
          | none => 1031 * hay.len + 17 * n0.len + 2000
          | some _ => 2000) := by
  obtain ⟨hhay, hf⟩ := hg
  have hnl : it.finder.needleSlice.len = n0.len := hf.1.len_eq
  unfold FindIter.next
  rw [hhay]
  by_cases hp : it.pos > hay.len
  · have hz : hay.toArray.size + 1 - it.pos = 0 :=
      Nat.sub_eq_zero_of_le (by rw [Slice.toArray_size hh]; exact hp)
    simp only [hp, if_true, hz]
    exact ⟨(none, it), c, rfl, rfl, ⟨hhay, hf⟩, rfl, rfl, fun _ => Nat.le_add_right _ _⟩
  · have hp' : it.pos ≤ hay.len := Nat.le_of_not_lt hp
    simp only [hp, if_false]
    obtain ⟨st', c', h, hk⟩ := Finder.search_run cfg hf hn0 (TwoWay.tailFrom hay it.pos)
      (Slice.drop_valid hh hp') it.prestate c
    simp only [bind_ok (show it.finder.searcher.find cfg it.prestate
      ⟨hay.mem, hay.off + it.pos, hay.len - it.pos⟩ it.finder.needleSlice c = _ from h)]
    rw [← leftmost_drop hh hn0 hp']
    cases hl : Spec.leftmost (TwoWay.tailFrom hay it.pos).toArray n0.toArray with
    | none =>
      rw [hl] at hk
      exact ⟨_, c', rfl, rfl, ⟨rfl, hf⟩, rfl, rfl,
        fun hpk => none_budget (hk hpk) (Nat.sub_le hay.len it.pos)⟩
    | some idx =>
      rw [hl] at hk
      have hfit := ((occAt_drop hh hn0 hp' idx).mp ((Spec.leftmost_eq_some_iff _ _ _).mp hl).1).1
      rw [Slice.toArray_size hn0, Slice.toArray_size hh] at hfit
      refine ⟨_, c', rfl, rfl, ⟨rfl, hf⟩, rfl, ?_, fun hpk => ?_⟩
      · simp only [hnl, Slice.toArray_size hn0]
      · rw [hnl]
        exact fwdSome_budget (hk hpk) hfit

theorem FindIter.sizeHint_eq {n0 hay : Slice} (hn0 : n0.Valid) (hh : hay.Valid) {it : FindIter}
    (hg : it.GoodFor n0 hay) :
    it.sizeHint = hintOf hay.toArray.size n0.toArray.size it.pos := by
  unfold FindIter.sizeHint hintOf
  rw [hg.1, show it.finder.needleSlice.len = n0.len from hg.2.1.len_eq, Slice.toArray_size hn0,
    Slice.toArray_size hh]
  split
  · rfl
  · cases n0.len <;> rfl

/-- one `next()` yields the head of the matches still to come and moves to their tail -/
theorem FindIter.next_rest (cfg : Api.Cfg) {n0 hay : Slice} (hn0 : n0.Valid) (hh : hay.Valid)
    (it : FindIter) (c : Ctr) (hg : it.GoodFor n0 hay) :
    ∃ it' c', it.next cfg c = .ok
        ((Spec.greedyFwdFrom hay.toArray n0.toArray it.pos (hay.toArray.size + 1)).head?, it') c' ∧
      it'.GoodFor n0 hay ∧
      Spec.greedyFwdFrom hay.toArray n0.toArray it'.pos (hay.toArray.size + 1) =
        (Spec.greedyFwdFrom hay.toArray n0.toArray it.pos (hay.toArray.size + 1)).tail ∧
      (PackedOk n0 it.finder.searcher → PackedOk n0 it'.finder.searcher ∧
        c'.steps + 1048 * (hay.len + 1 - it'.pos) ≤ c.steps + 1048 * (hay.len + 1 - it.pos) +
          match (Spec.greedyFwdFrom hay.toArray n0.toArray it.pos (hay.toArray.size + 1)).head? with
          | none => 1031 * hay.len + 17 * n0.len + 2000
          | some _ => 2000) := by
  obtain ⟨⟨o, it'⟩, c', e, rfl, g, f, p, hk⟩ := FindIter.next_run cfg hn0 hh hg c
  obtain ⟨h1, h2⟩ := greedyFwdFrom_head_tail hay.toArray n0.toArray it.pos
  rw [h1]
  exact ⟨it', c', e, g, by rw [p, h2], fun hp => ⟨f ▸ hp, hk hp⟩⟩

/-- **C08 for a forward iterator in any state** (any position, prefilter state, ownership): `k`
calls of `next()` return the first `k` entries of the greedy sequence from its position and then
`None` forever; the state stays good; the heap is not touched.  **C13**: where the searcher's
step bound applies (`PackedOk`), the `Some` answers are paid for by `1048` steps per byte the
position moves and `2000` per call, and each `None` costs at most one search of the whole
haystack. -/
theorem FindIter.nexts_run (cfg : Api.Cfg) {n0 hay : Slice} (hn0 : n0.Valid) (hh : hay.Valid)
    {it : FindIter} (hg : it.GoodFor n0 hay) (k : Nat) (h : Heap) (c : Ctr) :
    ∃ it' c', FindIter.run cfg (List.replicate k .next) it h c =
        .ok ((List.range k).map (fun i => Out.idx
          ((Spec.greedyFwdFrom hay.toArray n0.toArray it.pos (hay.toArray.size + 1))[i]?)),
          it', h) c' ∧
      it'.GoodFor n0 hay ∧
      (PackedOk n0 it.finder.searcher →
        c'.steps + 1048 * (hay.len + 1 - it'.pos) ≤ c.steps + 1048 * (hay.len + 1 - it.pos) +
          (1031 * hay.len + 17 * n0.len + 2000) *
            (k - (Spec.greedyFwdFrom hay.toArray n0.toArray it.pos (hay.toArray.size + 1)).length) +
          2000 * k) :=
  nextsRun_of_head_tail (fun _ _ => rfl) (fun _ _ _ _ => rfl) (fun _ _ => rfl)
    (Paid := fun it => PackedOk n0 it.finder.searcher)
    (Φ := fun it => 1048 * (hay.len + 1 - it.pos)) (FindIter.next_rest cfg hn0 hh) k it h c hg

theorem Finder.findIter_good {n0 : Slice} {f : Finder} (hg : f.GoodFor n0) (hay : Slice) :
    (f.findIter hay).GoodFor n0 hay :=
  ⟨rfl, hg⟩

set_option linter.unusedVariables false in
/-- **C08.find_iter**: for a finder built for `needle` (any configuration, prefilter setting,
ranker), `k` calls of `next()` on `finder.find_iter(haystack)` return the first `k` entries of
`Spec.greedyFwd haystack needle` and then `None` forever; no fault, no allocation.
`htw` is not needed (its conclusion is the theorem `twoWayFwdOk`): a special case of
`FindIter.nexts_run`. -/
theorem C08.find_iter (cfg : Api.Cfg) (needle hay : Slice) (hn : needle.Valid) (hh : hay.Valid)
    (f : Finder) (hg : f.GoodFor needle) (htw : f.searcher.usesTwoWay → TwoWayFwdOk)
    (k : Nat) (h : Heap) (c : Ctr) :
    ∃ it' h' c', FindIter.run cfg (List.replicate k .next) (f.findIter hay) h c =
        .ok ((List.range k).map
          (fun i => Out.idx ((Spec.greedyFwd hay.toArray needle.toArray)[i]?)), it', h') c' ∧
      h'.allocs = h.allocs := by
  obtain ⟨it', c', hr, _⟩ := FindIter.nexts_run cfg hn hh (Finder.findIter_good hg hay) k h c
  exact ⟨it', h, c', hr, rfl⟩

/-- **C08, `size_hint`**: in every state of a forward iterator (any position, any prefilter
state, borrowed or owned), `size_hint()` brackets the length of the list of matches its later
`next()` calls return (which is `greedyFwdFrom .. pos ..`, by `FindIter.nexts_run`). -/
theorem C08.size_hint {n0 hay : Slice} (hn0 : n0.Valid) (hh : hay.Valid) {it : FindIter}
    (hg : it.GoodFor n0 hay) :
    it.sizeHint.1 ≤
      (Spec.greedyFwdFrom hay.toArray n0.toArray it.pos (hay.toArray.size + 1)).length ∧
    ∀ hi, it.sizeHint.2 = some hi →
      (Spec.greedyFwdFrom hay.toArray n0.toArray it.pos (hay.toArray.size + 1)).length ≤ hi := by
  rw [FindIter.sizeHint_eq hn0 hh hg]
  exact hint_brackets hay.toArray n0.toArray it.pos

/-- **`finder.find_iter(haystack)` run to exhaustion** counts `Spec.greedyFwd` (C08), for a
finder in any ownership state (C16), without a fault and - the function not taking the heap -
without allocation (C17): the fuel `len + 2` exceeds the `len + 1` matches there can be. -/
theorem Finder.countIter_ok (cfg : Api.Cfg) {n0 : Slice} {f : Finder} (hg : f.GoodFor n0)
    (hn0 : n0.Valid) (hay : Slice) (hh : hay.Valid) (c : Ctr) :
    ∃ c', f.countIter cfg hay c = .ok (Spec.greedyFwd hay.toArray n0.toArray).length c' := by
  have hb := Spec.greedyFwd_length_le hay.toArray n0.toArray
  rw [Slice.toArray_size hh] at hb
  obtain ⟨c', h⟩ := countLoop_of_head_tail (loop := FindIter.countLoop cfg)
    (rest := fun it => Spec.greedyFwdFrom hay.toArray n0.toArray it.pos (hay.toArray.size + 1))
    (loop_none := fun _ _ _ _ _ _ e => by simp only [FindIter.countLoop, bind_ok e]; rfl)
    (loop_some := fun _ _ _ _ _ _ _ e => by simp only [FindIter.countLoop, bind_ok e])
    (fun it c hg => let ⟨it', c', e, g, t, _⟩ := FindIter.next_rest cfg hn0 hh it c hg
      ⟨it', c', e, g, t⟩) (hay.len + 2) (f.findIter hay) 0 c
    (Finder.findIter_good hg hay) (Nat.lt_succ_of_le hb)
  exact ⟨c', h.trans (by rw [Nat.zero_add]; rfl)⟩

/-! ### C08 reverse, pure part -/

/-- one `next()` of the reference `FindRevIter` (state: `pos : Option<usize>`): the result and
the new state -/
def refRevStep (hay x : Array UInt8) : Option Nat → Option Nat × Option Nat
  | none => (none, none)
  | some p =>
    if p < x.size then (none, some p)
    else
      match Spec.rightmostBelow hay x (p - x.size + 1) with
      | none => (none, some p)
      | some i => (some i, if p = i then (if p = 0 then none else some (p - 1)) else some i)

def refRev (hay x : Array UInt8) : List IterOp → Option Nat → List Out
  | [], _ => []
  | .next :: ops, st =>
    .idx (refRevStep hay x st).1 :: refRev hay x ops (refRevStep hay x st).2
  | .sizeHint :: ops, st => .hint 0 none :: refRev hay x ops st
  | .clone :: ops, st => refRev hay x ops st
  | .intoOwned :: ops, st => refRev hay x ops st

/-- what is still to come from a state -/
def revRest (hay x : Array UInt8) : Option Nat → List Nat
  | none => []
  | some p => Spec.greedyRevFrom hay x p (hay.size + 1)

/-- one reference step yields the head of what is still to come and moves to a state denoting
its tail (`Spec.greedyRevFrom_unfold` read through `rightmostBelow_self_iff`) -/
theorem revRest_head_tail (hay x : Array UInt8) (st : Option Nat)
    (hst : ∀ p, st = some p → p ≤ hay.size) :
    (revRest hay x st).head? = (refRevStep hay x st).1 ∧
    revRest hay x (refRevStep hay x st).2 = (revRest hay x st).tail ∧
    ∀ q, (refRevStep hay x st).2 = some q → q ≤ hay.size := by
  cases st with
  | none => exact ⟨rfl, rfl, nofun⟩
  | some p =>
    have hp := hst p rfl
    have hu := Spec.greedyRevFrom_unfold hay x p hp
    simp only [refRevStep]
    by_cases hlt : p < x.size
    · rw [if_pos hlt] at hu
      simp only [hlt, if_true, revRest, hu]
      exact ⟨rfl, rfl, fun q hq => by cases hq; exact hp⟩
    · rw [if_neg hlt] at hu
      simp only [hlt, if_false]
      cases hr : Spec.rightmostBelow hay x (p - x.size + 1) with
      | none =>
        rw [hr] at hu
        simp only [revRest, hu]
        exact ⟨rfl, rfl, fun q hq => by cases hq; exact hp⟩
      | some i =>
        rw [hr] at hu
        obtain ⟨hi, hiff⟩ := Spec.rightmostBelow_self_iff hp (Nat.le_of_not_lt hlt) hr
        by_cases hx : x.size = 0
        · have hpi : p = i := hiff.mpr hx
          subst hpi
          simp only [hx, if_true] at hu
          by_cases h0 : p = 0
          · subst h0
            simp only [if_true] at hu ⊢
            simp only [revRest, hu]
            exact ⟨rfl, rfl, nofun⟩
          · simp only [h0, if_false] at hu ⊢
            simp only [revRest, hu]
            exact ⟨rfl, rfl, fun q hq => by cases hq; exact Nat.le_trans (Nat.sub_le _ _) hp⟩
        · have hpi : p ≠ i := fun e => hx (hiff.mp e)
          simp only [hx, if_false] at hu
          simp only [hpi, if_false, revRest, hu]
          exact ⟨rfl, rfl, fun q hq => by cases hq; exact Nat.le_trans hi hp⟩

/-- **C08 (pure)**: `k` calls of `next()` from a state yield the first `k` entries of what is
still to come, then `None`s. -/
theorem refRev_nexts (hay x : Array UInt8) (k : Nat) (st : Option Nat)
    (hst : ∀ p, st = some p → p ≤ hay.size) :
    refRev hay x (List.replicate k .next) st =
      (List.range k).map (fun i => Out.idx ((revRest hay x st)[i]?)) :=
  nexts_of_head_tail (Inv := fun st => ∀ p, st = some p → p ≤ hay.size) (fun _ => rfl)
    (fun r hr => by
      obtain ⟨h1, h2, h3⟩ := revRest_head_tail hay x r hr
      exact ⟨_, h3, h2, fun ops => by rw [h1]; rfl⟩) k st hst

/-- **C08.rfind_iter (pure)**: from the start the `next()` results are `Spec.greedyRev` and
then `None` forever. -/
theorem refRev_greedy (hay x : Array UInt8) (k : Nat) :
    refRev hay x (List.replicate k .next) (some hay.size) =
      (List.range k).map (fun j => Out.idx ((Spec.greedyRev hay x)[j]?)) :=
  refRev_nexts hay x k (some hay.size) (fun p hp => by cases hp; exact Nat.le_refl _)

/-! ### C08 reverse: the model iterator against the reference -/

/-- `&haystack[..p]` -/
def takeSlice (s : Slice) (p : Nat) : Slice := ⟨s.mem, s.off, p⟩

theorem takeSlice_valid {s : Slice} (hv : s.Valid) {p : Nat} (h : p ≤ s.len) :
    (takeSlice s p).Valid := Slice.take_valid hv h

theorem occAt_take {hay n : Slice} (hh : hay.Valid) (hn : n.Valid) {p : Nat}
    (hp : p ≤ hay.len) (q : Nat) :
    Spec.OccAt (takeSlice hay p).toArray n.toArray q ↔
      Spec.OccAt hay.toArray n.toArray q ∧ q + n.toArray.size ≤ p := by
  rw [Slice.occAt_iff_getD (takeSlice_valid hh hp) hn, Slice.occAt_iff_getD hh hn,
    Slice.toArray_size hn]
  exact ⟨fun ⟨h1, h2⟩ => ⟨⟨Nat.le_trans h1 hp, h2⟩, h1⟩, fun ⟨⟨_, h2⟩, h1⟩ => ⟨h1, h2⟩⟩

theorem rightmost_take {hay n : Slice} (hh : hay.Valid) (hn : n.Valid) {p : Nat}
    (hp : p ≤ hay.len) :
    Spec.rightmost (takeSlice hay p).toArray n.toArray =
      if p < n.toArray.size then none
      else Spec.rightmostBelow hay.toArray n.toArray (p - n.toArray.size + 1) := by
  by_cases hlt : p < n.toArray.size
  · rw [if_pos hlt]
    exact Spec.rightmost_of_short (by rw [Slice.toArray_size (takeSlice_valid hh hp)]; exact hlt)
  · rw [if_neg hlt]
    have hge := Nat.le_of_not_lt hlt
    -- below `p - n.len + 1` the occurrences in `&haystack[..p]` are those in `haystack`, and from
    -- there on it has none
    refine (((Spec.rightmostBelow_isGreatest hay.toArray n.toArray _).congr fun j _ hj =>
      ?_).eq_rightmost fun j hj => ?_).symm
    · exact ⟨fun ho => (occAt_take hh hn hp j).mpr ⟨ho, (Spec.lt_bound_iff hge).mp hj⟩,
        fun ho => ((occAt_take hh hn hp j).mp ho).1⟩
    · exact (Spec.lt_bound_iff hge).mpr ((occAt_take hh hn hp j).mp hj).2

/-- a reverse iterator over `hay` for the bytes of `n0` -/
def FindRevIter.GoodFor (n0 hay : Slice) (it : FindRevIter) : Prop :=
  it.haystack = hay ∧ it.finder.GoodFor n0 ∧ ∀ p, it.pos = some p → p ≤ hay.len

/-- the reference step from `Some(p)` reads the rightmost occurrence in `&haystack[..p]` -/
theorem refRevStep_take {hay n : Slice} (hh : hay.Valid) (hn : n.Valid) {p : Nat}
    (hp : p ≤ hay.len) :
    refRevStep hay.toArray n.toArray (some p) =
      match Spec.rightmost (takeSlice hay p).toArray n.toArray with
      | none => (none, some p)
      | some i => (some i, if p = i then (if p = 0 then none else some (p - 1)) else some i) := by
  rw [rightmost_take hh hn hp]
  by_cases hlt : p < n.toArray.size
  · simp only [refRevStep, hlt, if_true]
  · simp only [refRevStep, hlt, if_false]

/-- a match at `i` below position `p`, found in `p - i` scanned bytes, pays for itself out of the
`p - q` bytes the position moves down by -/
theorem revSome_budget {s s' p i n q : Nat} (hk : s' ≤ s + (3 * (p - i) + 17 * n + 192))
    (hfit : i + n ≤ p) (hq : q ≤ i) : s' + 20 * q ≤ s + 20 * p + 192 := by
  omega

/-- after a match at `i` the position is at most `i`: `i` itself, or `pos.checked_sub(1)` when the
empty needle matched at `pos` -/
theorem revPos_getD_le (p i : Nat) :
    (if p = i then (if p = 0 then none else some (p - 1)) else some i).getD 0 ≤ i := by
  split
  · next h =>
    subst h
    split
    · exact Nat.zero_le _
    · exact Nat.sub_le _ _
  · exact Nat.le_refl _

/-- one `next()` of the model is one step of the reference.  Its steps are those of the one search
of `&haystack[..pos]`: counted against the potential `20` per byte below the position, a `Some`
answer costs at most `192`, a `None` answer at most one search of the whole haystack (C13). -/
theorem FindRevIter.next_run (cfg : Api.Cfg) {n0 hay : Slice} (hn0 : n0.Valid) (hh : hay.Valid)
    {it : FindRevIter} (hg : it.GoodFor n0 hay) (c : Ctr) :
    ∃ x c', it.next cfg c = .ok x c' ∧ x.1 = (refRevStep hay.toArray n0.toArray it.pos).1 ∧
      x.2.GoodFor n0 hay ∧ x.2.finder = it.finder ∧
      x.2.pos = (refRevStep hay.toArray n0.toArray it.pos).2 ∧
      c'.steps + 20 * x.2.pos.getD 0 ≤ c.steps + 20 * it.pos.getD 0 +
        match x.1 with
        | none => 3 * hay.len + 17 * n0.len + 192
        | some _ => 192 := by
  obtain ⟨hhay, hf, hpos⟩ := hg
  unfold FindRevIter.next
  cases hp : it.pos with
  | none =>
    exact ⟨(none, it), c, rfl, rfl, ⟨hhay, hf, hpos⟩, rfl, hp, hp ▸ Nat.le_add_right _ _⟩
  | some p =>
    have hple := hpos p hp
    obtain ⟨c', h, hk⟩ := FinderRev.rfind_run cfg hf hn0 (takeSlice hay p)
      (takeSlice_valid hh hple) c
    simp only [hhay, Slice.take_ok hple, pure_bind', bind_ok (show FinderRev.rfind cfg it.finder
      ⟨hay.mem, hay.off, p⟩ c = _ from h), refRevStep_take hh hn0 hple]
    cases hr : Spec.rightmost (takeSlice hay p).toArray n0.toArray with
    | none =>
      rw [hr] at hk
      exact ⟨(none, it), c', rfl, rfl, ⟨hhay, hf, hpos⟩, rfl, hp, hp ▸ none_budget hk hple⟩
    | some i =>
      rw [hr] at hk
      have hfit := ((occAt_take hh hn0 hple i).mp ((Spec.rightmost_eq_some_iff _ _ _).mp hr).1).2
      rw [Slice.toArray_size hn0] at hfit
      have hle := revPos_getD_le p i
      -- both arms of `if pos == i` answer `Some(i)`; their positions are the reference's `if`
      refine ⟨(some i, ⟨hay, it.finder,
          if p = i then (if p = 0 then none else some (p - 1)) else some i⟩), c', ?_, rfl,
        ⟨rfl, hf, fun q hq => ?_⟩, rfl, rfl, revSome_budget hk hfit hle⟩
      · simp only [beq_iff_eq]
        split <;> rfl
      · have hq : (if p = i then (if p = 0 then none else some (p - 1)) else some i) = some q := hq
        rw [hq] at hle
        exact Nat.le_trans hle (Nat.le_trans (Nat.le_of_add_right_le hfit) hple)

theorem FindRevIter.next_rest (cfg : Api.Cfg) {n0 hay : Slice} (hn0 : n0.Valid) (hh : hay.Valid)
    (it : FindRevIter) (c : Ctr) (hg : it.GoodFor n0 hay) :
    ∃ it' c', it.next cfg c = .ok ((revRest hay.toArray n0.toArray it.pos).head?, it') c' ∧
      it'.GoodFor n0 hay ∧
      revRest hay.toArray n0.toArray it'.pos = (revRest hay.toArray n0.toArray it.pos).tail ∧
      c'.steps + 20 * it'.pos.getD 0 ≤ c.steps + 20 * it.pos.getD 0 +
        match (revRest hay.toArray n0.toArray it.pos).head? with
        | none => 3 * hay.len + 17 * n0.len + 192
        | some _ => 192 := by
  obtain ⟨⟨o, it'⟩, c', e, rfl, g, _, p, hk⟩ := FindRevIter.next_run cfg hn0 hh hg c
  obtain ⟨h1, h2, _⟩ := revRest_head_tail hay.toArray n0.toArray it.pos
    (fun q hq => by rw [Slice.toArray_size hh]; exact hg.2.2 q hq)
  rw [h1]
  exact ⟨it', c', e, g, by rw [p, h2], hk⟩

/-- **C08 for a reverse iterator in any state**, and its steps (**C13**): the `Some` answers are
paid for by `20` steps per byte the position moves down and `192` per call, each `None` costs at
most one search of the whole haystack. -/
theorem FindRevIter.nexts_run (cfg : Api.Cfg) {n0 hay : Slice} (hn0 : n0.Valid) (hh : hay.Valid)
    {it : FindRevIter} (hg : it.GoodFor n0 hay) (k : Nat) (h : Heap) (c : Ctr) :
    ∃ it' c', FindRevIter.run cfg (List.replicate k .next) it h c =
        .ok ((List.range k).map (fun i => Out.idx ((revRest hay.toArray n0.toArray it.pos)[i]?)),
          it', h) c' ∧
      it'.GoodFor n0 hay ∧
      c'.steps + 20 * it'.pos.getD 0 ≤ c.steps + 20 * it.pos.getD 0 +
        (3 * hay.len + 17 * n0.len + 192) *
          (k - (revRest hay.toArray n0.toArray it.pos).length) + 192 * k :=
  let ⟨it', c', e, g, hk⟩ := nextsRun_of_head_tail (fun _ _ => rfl) (fun _ _ _ _ => rfl)
    (fun _ _ => rfl) (Paid := fun _ => True) (Φ := fun it => 20 * it.pos.getD 0)
    (fun it c hg => let ⟨it', c', e, g, t, hk⟩ := FindRevIter.next_rest cfg hn0 hh it c hg
      ⟨it', c', e, g, t, fun _ => ⟨trivial, hk⟩⟩) k it h c hg
  ⟨it', c', e, g, hk trivial⟩

theorem revRest_start {hay : Slice} (hh : hay.Valid) (x : Array UInt8) :
    revRest hay.toArray x (some hay.len) = Spec.greedyRev hay.toArray x := by
  rw [← Slice.toArray_size hh]; rfl

theorem FinderRev.rfindIter_good {n0 : Slice} {f : FinderRev} (hg : f.GoodFor n0) (hay : Slice) :
    (f.rfindIter hay).GoodFor n0 hay :=
  ⟨rfl, hg, fun p hp => by cases hp; exact Nat.le_refl _⟩

set_option linter.unusedVariables false in
/-- **C08.rfind_iter**: `k` calls of `next()` on `finder.rfind_iter(haystack)` return the first
`k` entries of `Spec.greedyRev haystack needle` and then `None` forever; no fault, no
allocation.  `htw` is not needed (its conclusion is the theorem `twoWayRevOk`): a special case of
`FindRevIter.nexts_run`. -/
theorem C08.rfind_iter (cfg : Api.Cfg) (needle hay : Slice) (hn : needle.Valid) (hh : hay.Valid)
    (f : FinderRev) (hg : f.GoodFor needle) (htw : f.searcher.usesTwoWay → TwoWayRevOk)
    (k : Nat) (h : Heap) (c : Ctr) :
    ∃ it' h' c', FindRevIter.run cfg (List.replicate k .next) (f.rfindIter hay) h c =
        .ok ((List.range k).map
          (fun i => Out.idx ((Spec.greedyRev hay.toArray needle.toArray)[i]?)), it', h') c' ∧
      h'.allocs = h.allocs := by
  obtain ⟨it', c', hr, _⟩ :=
    FindRevIter.nexts_run cfg hn hh (FinderRev.rfindIter_good hg hay) k h c
  exact ⟨it', h, c', (revRest_start hh _) ▸ hr, rfl⟩

/-- **`finder.rfind_iter(haystack)` run to exhaustion** counts `Spec.greedyRev`. -/
theorem FinderRev.countIter_ok (cfg : Api.Cfg) {n0 : Slice} {f : FinderRev} (hg : f.GoodFor n0)
    (hn0 : n0.Valid) (hay : Slice) (hh : hay.Valid) (c : Ctr) :
    ∃ c', f.countIter cfg hay c = .ok (Spec.greedyRev hay.toArray n0.toArray).length c' := by
  have hb := Spec.greedyRev_length_le hay.toArray n0.toArray
  rw [← revRest_start hh] at hb ⊢
  rw [Slice.toArray_size hh] at hb
  obtain ⟨c', h⟩ := countLoop_of_head_tail (loop := FindRevIter.countLoop cfg)
    (rest := fun it => revRest hay.toArray n0.toArray it.pos)
    (loop_none := fun _ _ _ _ _ _ e => by simp only [FindRevIter.countLoop, bind_ok e]; rfl)
    (loop_some := fun _ _ _ _ _ _ _ e => by simp only [FindRevIter.countLoop, bind_ok e])
    (fun it c hg => let ⟨it', c', e, g, t, _⟩ := FindRevIter.next_rest cfg hn0 hh it c hg
      ⟨it', c', e, g, t⟩) (hay.len + 2) (f.rfindIter hay) 0 c
    (FinderRev.rfindIter_good hg hay) (Nat.lt_succ_of_le hb)
  exact ⟨c', h.trans (by rw [Nat.zero_add]; rfl)⟩

/-! ### end to end: build, iterate -/

/-- **C08.find_iter, end to end** for a `FinderBuilder` finder (any configuration, prefilter
setting and ranker): build, `find_iter`, `k` times `next()`. -/
theorem C08.find_iter_all (cfg : Api.Cfg) (b : FinderBuilder) (rank : UInt8 → UInt8)
    (needle hay : Slice) (hn : needle.Valid) (hh : hay.Valid) (k : Nat) (h : Heap) (c : Ctr) :
    ∃ it' h' c', (b.buildForwardWithRanker cfg rank needle >>= fun f =>
        FindIter.run cfg (List.replicate k .next) (f.findIter hay) h) c =
        .ok ((List.range k).map
          (fun i => Out.idx ((Spec.greedyFwd hay.toArray needle.toArray)[i]?)), it', h') c' ∧
      h'.allocs = h.allocs := by
  obtain ⟨f, c1, hb, hg, _⟩ := FinderBuilder.build_run cfg b rank needle hn c
  obtain ⟨it', h', c', hr, ha⟩ :=
    C08.find_iter cfg needle hay hn hh f hg (fun _ => twoWayFwdOk) k h c1
  exact ⟨it', h', c', by rw [bind_ok hb, hr], ha⟩

/-- **C08.rfind_iter, end to end**: `FinderRev::new`, `rfind_iter`, `k` times `next()`. -/
theorem C08.rfind_iter_all (cfg : Api.Cfg) (needle hay : Slice) (hn : needle.Valid)
    (hh : hay.Valid) (k : Nat) (h : Heap) (c : Ctr) :
    ∃ it' h' c', (FinderRev.new needle >>= fun f =>
        FindRevIter.run cfg (List.replicate k .next) (f.rfindIter hay) h) c =
        .ok ((List.range k).map
          (fun i => Out.idx ((Spec.greedyRev hay.toArray needle.toArray)[i]?)), it', h') c' ∧
      h'.allocs = h.allocs := by
  obtain ⟨f, c1, hb, hg, _⟩ := FinderRev.new_run needle hn c
  obtain ⟨it', h', c', hr, ha⟩ :=
    C08.rfind_iter cfg needle hay hn hh f hg (fun _ => twoWayRevOk) k h c1
  exact ⟨it', h', c', by rw [bind_ok hb, hr], ha⟩

end Memchr.Memmem

section AxiomCheck
open Memchr.Memmem
#print axioms refFwd_greedy
#print axioms hint_brackets
#print axioms refRev_greedy
#print axioms C08.find_iter
#print axioms C08.find_iter_all
#print axioms C08.size_hint
#print axioms C08.rfind_iter
#print axioms C08.rfind_iter_all
#print axioms Finder.countIter_ok
#print axioms FinderRev.countIter_ok
end AxiomCheck
