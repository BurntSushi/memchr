/-
Two-Way: the bridge between the reverse and the forward direction.

* array level: periods and local repetitions are invariant under reversal
  (`per_reverse_iff`, `lr_reverse_iff`), hence
  `certRev_iff_certFwd_reverse : CertRev x crit shift ↔
     crit ≤ |x| ∧ CertFwd x.reverse (|x| - crit) shift`.
* model level (lock-step simulation): `Suffix::reverse(x, kind)` runs through the same state
  sequence as `Suffix::forward(reverse x, kind)` under `pos ↦ |x| - pos`
  (`reverseLoop_sim`, `suffix_reverse_sim`: same result, same step count, same trace);
  `Shift::reverse(x, p, |x| - crit)` returns the same `Shift` as
  `Shift::forward(reverse x, p, crit)` (`shift_reverse_sim`; the counters differ because
  `is_prefix` / `is_suffix` load different addresses, so the step bound of the reverse run is
  stated beside it); hence `FinderRev::new(x)` and `Finder::new(reverse x)` store mirrored
  critical positions and equal shifts (`finderRev_new_sim`).
* consequence (`finderRev_new_full`): what `finder_new_full` says about `Finder::new(reverse x)`
  (certificate, step bound, shape of the shift) holds, mirrored, of `FinderRev::new(x)`; no other
  proof walks `Suffix::reverse`, `Shift::reverse` or `FinderRev::new`.  `finderRev_new_spec` is the
  weaker form with `SoundPreRev`, the hypothesis of `rfind_sound`.

The reversed needle is the slice `revSlice x`: a fresh region (same id and base) holding the
bytes of `x` in reverse order.
-/
import MemchrModel.Proofs.TwoWayNew

namespace Memchr.TwoWay

theorem suffix_reverse_empty (n : Slice) (kind : SuffixKind) (c : Ctr) (hn : n.len = 0) :
    Suffix.reverse n kind c = .ok { pos := 0, period := 1 } c := by
  unfold Suffix.reverse
  simp [hn]

/-- entries of the reversed array at mirrored indices -/
theorem getElem?_reverse_mirror {x : Array UInt8} {t u : Nat} (h : t + u + 1 = x.size) :
    x.reverse[u]? = x[t]? := by
  rw [Array.getElem?_reverse (by omega)]
  congr 1
  omega

theorem per_of_per_reverse {x : Array UInt8} {k : Nat} (h : Per x.reverse k) : Per x k := by
  refine ⟨h.1, fun t ht => ?_⟩
  -- `u` mirrors `t + k`, and `u + k` mirrors `t`
  obtain ⟨u, hu⟩ := Nat.exists_eq_add_of_lt ht
  have := h.2 u (by rw [Array.size_reverse]; omega)
  rw [getElem?_reverse_mirror hu.symm, getElem?_reverse_mirror (t := t) (by omega)] at this
  exact this.symm

/-- periods are invariant under reversal -/
theorem per_reverse_iff (x : Array UInt8) (k : Nat) : Per x.reverse k ↔ Per x k :=
  ⟨per_of_per_reverse, fun h => per_of_per_reverse (by rwa [Array.reverse_reverse])⟩

theorem lr_of_lr_reverse {x : Array UInt8} {c k : Nat} (hc : c ≤ x.size)
    (h : LR x.reverse (x.size - c) k) : LR x c k := by
  intro t h1 h2 h3
  obtain ⟨u, hu⟩ := Nat.exists_eq_add_of_lt h3
  have := h u (by omega) (by omega) (by rw [Array.size_reverse]; omega)
  rw [getElem?_reverse_mirror hu.symm, getElem?_reverse_mirror (t := t) (by omega)] at this
  exact this.symm

/-- local repetitions are invariant under reversal (position `c` becomes `|x| - c`) -/
theorem lr_reverse_iff (x : Array UInt8) {c : Nat} (k : Nat) (hc : c ≤ x.size) :
    LR x.reverse (x.size - c) k ↔ LR x c k := by
  refine ⟨lr_of_lr_reverse hc, fun h => ?_⟩
  have key := lr_of_lr_reverse (x := x.reverse) (c := x.size - c) (k := k)
    (by rw [Array.size_reverse]; omega)
  rw [Array.reverse_reverse, Array.size_reverse, show x.size - (x.size - c) = c by omega] at key
  exact key h

theorem coreRev_iff_core_reverse (x : Array UInt8) (crit : Nat) :
    CoreRev x crit ↔ crit ≤ x.size ∧ Core x.reverse (x.size - crit) := by
  unfold CoreRev Core
  refine and_congr_right fun hc => forall_congr' fun k => imp_congr_right fun _ => ?_
  rw [lr_reverse_iff x k hc, per_reverse_iff]

/-- **The reverse certificate is the forward certificate of the reversed needle** at the
mirrored critical position. -/
theorem certRev_iff_certFwd_reverse (x : Array UInt8) (crit : Nat) (shift : Shift) :
    CertRev x crit shift ↔ crit ≤ x.size ∧ CertFwd x.reverse (x.size - crit) shift := by
  unfold CertRev CertFwd
  rw [coreRev_iff_core_reverse]
  cases shift <;> simp only [Array.size_reverse, per_reverse_iff, and_assoc]

/-- a fresh region (same id and base) holding the bytes of `n` in reverse order -/
def revSlice (n : Slice) : Slice := Slice.ofMem ⟨n.mem.region, n.mem.base, n.toArray.reverse⟩

theorem revSlice_len {n : Slice} (hnv : n.Valid) : (revSlice n).len = n.len := by
  simp [revSlice, Slice.ofMem, Slice.toArray_size hnv]

theorem revSlice_valid (n : Slice) : (revSlice n).Valid := by
  unfold Slice.Valid revSlice Slice.ofMem; simp

theorem revSlice_toArray (n : Slice) : (revSlice n).toArray = n.toArray.reverse := by
  simp [revSlice, Slice.ofMem, Slice.toArray]

theorem revSlice_getD {n : Slice} (hnv : n.Valid) (t u : Nat) (h : t + u + 1 = n.len) :
    (revSlice n).getD t = n.getD u := by
  have h' : u + t + 1 = n.toArray.size := by rw [Slice.toArray_size hnv]; omega
  simp only [revSlice, Slice.ofMem, Slice.getD, Nat.zero_add]
  rw [getElem?_reverse_mirror h', Slice.toArray_getElem? hnv _ (by omega)]
  rfl

/-! ### `Suffix::reverse` = `Suffix::forward` on the reversed needle

`y` is any slice holding the reversed bytes of `x`: `y[t] = x[u]` whenever `t + u + 1 = |x|`.
A position `r` of the reverse run mirrors the position `f` of the forward run when
`r + f = |x|`.  The mirror map is kept in this additive form throughout, and the arithmetic of
one loop iteration is stated once, about variables (`mirror_index`, `mirror_move`,
`mirror_dist`): an `omega` inside the loop proof, with its context, costs several times as
much. -/

/-- the byte `k` to the left of `r` is the mirror image of the byte `k` to the right of `f` -/
theorem mirror_index {N r f k a : Nat} (h : r + f = N) (ha : N = f + k + a + 1) :
    a + 1 + k = r := by omega

/-- moving both positions by `c` -/
theorem mirror_move {N r f c : Nat} (h : r + f = N) (hc : c ≤ r) : r - c + (f + c) = N := by
  omega

/-- distances between mirrored positions agree -/
theorem mirror_dist {N r f r' f' c d : Nat} (h : r + f = N) (h' : r' + f' = N) (hc : c ≤ r')
    (hd : d + f = f' + c) : d + (r' - c) = r := by omega

theorem reverseLoop_sim (x y : Slice) (hlen : y.len = x.len)
    (hget : ∀ t u, t + u + 1 = x.len → y.getD t = x.getD u)
    (kind : SuffixKind) (sf : Suffix) (jf k : Nat) (c : Ctr) (rp jr : Nat)
    (hlt : sf.pos < jf) (hpos : rp + sf.pos = x.len) (hjr : jr + jf = x.len) :
    ∃ s' c' rp', Suffix.forwardLoop y kind sf jf k c = .ok s' c' ∧
      Suffix.reverseLoop x kind ⟨rp, sf.period⟩ jr k c = .ok ⟨rp', s'.period⟩ c' ∧
      rp' + s'.pos = x.len := by
  fun_induction Suffix.forwardLoop y kind sf jf k generalizing c rp jr with
  | case1 sf jf k hlt' ih1 ih2 ih3 ih4 =>
    rw [hlen] at hlt'
    have hpk : sf.pos + k < x.len := Nat.lt_trans (Nat.add_lt_add_right hlt k) hlt'
    -- `a`, `b`: the indices of the two bytes compared, in the coordinates of `x`
    obtain ⟨a, hga⟩ := Nat.exists_eq_add_of_lt hpk
    obtain ⟨b, hgb⟩ := Nat.exists_eq_add_of_lt hlt'
    have ha := mirror_index hpos hga
    have hb := mirror_index hjr hgb
    have hkj : k < jr := hb ▸ Nat.lt_add_of_pos_left (Nat.succ_pos b)
    rw [Suffix.reverseLoop, dif_pos hkj]
    rw [bind_ok (tick_run 1 c), bind_ok (tick_run 1 c)]
    simp only [Slice.get_ok (hlen ▸ hpk), Slice.get_ok (hlen ▸ hlt'), pure_bind',
      csub_eq ha, csub_eq hb, csub_eq (rfl : a + 1 = a + 1), csub_eq (rfl : b + 1 = b + 1),
      hget _ a hga.symm, hget _ b hgb.symm,
      Slice.get_ok (hga ▸ Nat.lt_succ_of_le (Nat.le_add_left a _) : a < x.len),
      Slice.get_ok (hgb ▸ Nat.lt_succ_of_le (Nat.le_add_left b _) : b < x.len)]
    cases hc : kind.cmp (x.getD a) (x.getD b) with
    | accept =>
      have h1 : 1 ≤ jr := Nat.zero_lt_of_lt hkj
      simp only [csub_ok h1, pure_bind']
      exact ih1 { c with steps := c.steps + 1 } jr (jr - 1) (Nat.lt_succ_self _) hjr
        (mirror_move hjr h1)
    | skip =>
      have h1 : k + 1 ≤ jr := hkj
      obtain ⟨d, hd⟩ := Nat.exists_eq_add_of_le' (Nat.le_of_lt (Nat.lt_add_right (k + 1) hlt))
      simp only [csub_eq hd.symm, pure_bind', csub_ok h1,
        csub_eq (mirror_dist hpos hjr h1 hd.symm)]
      exact ih2 d { c with steps := c.steps + 1 } rp (jr - (k + 1)) (Nat.lt_add_right (k + 1) hlt)
        hpos (mirror_move hjr h1)
    | push =>
      simp only []
      by_cases hp : k + 1 = sf.period
      · have h1 : sf.period ≤ jr := hp ▸ hkj
        simp only [hp, dite_true, csub_ok h1, pure_bind']
        exact ih3 hp { c with steps := c.steps + 1 } rp (jr - sf.period)
          (Nat.lt_add_right sf.period hlt) hpos (mirror_move hjr h1)
      · simp only [hp, dite_false]
        exact ih4 { c with steps := c.steps + 1 } rp jr hlt hpos hjr
  | case2 sf jf k hlt' =>
    rw [hlen, ← hjr, Nat.add_comm jr] at hlt'
    rw [Suffix.reverseLoop, dif_neg (fun h => hlt' (Nat.add_lt_add_left h jf))]
    exact ⟨sf, c, rp, rfl, rfl, hpos⟩

/-- **`Suffix::reverse(x, kind)` is `Suffix::forward(reverse x, kind)`** with the position
mirrored: same period, same step count, same load trace (none). -/
theorem suffix_reverse_sim (x y : Slice) (hlen : y.len = x.len)
    (hget : ∀ t u, t + u + 1 = x.len → y.getD t = x.getD u)
    (kind : SuffixKind) (c : Ctr) :
    ∃ s' c' rp', Suffix.forward y kind c = .ok s' c' ∧
      Suffix.reverse x kind c = .ok ⟨rp', s'.period⟩ c' ∧ rp' + s'.pos = x.len := by
  by_cases h0 : x.len = 0
  · exact ⟨_, c, 0, suffix_forward_empty y kind c (hlen.trans h0), suffix_reverse_empty x kind c h0,
      h0.symm⟩
  · by_cases h1 : x.len = 1
    · refine ⟨⟨0, 1⟩, c, 1, ?_, ?_, h1.symm⟩
      · unfold Suffix.forward
        rw [Suffix.forwardLoop]
        simp [hlen, h1]
      · unfold Suffix.reverse
        simp [h1]
    · unfold Suffix.forward Suffix.reverse
      simp only [h0, h1, if_false]
      exact reverseLoop_sim x y hlen hget kind (sf := ⟨0, 1⟩) (jf := 1) (k := 0) c (rp := x.len)
        (jr := x.len - 1) Nat.zero_lt_one rfl (Nat.sub_add_cancel (Nat.pos_of_ne_zero h0))

/-- sub-slices of `x` and `y` that are mirror images of each other (`oy` bytes before the one,
`ox` bytes before the other) hold reversed lists -/
theorem toList_mirror {x y : Slice} (hget : ∀ t u, t + u + 1 = x.len → y.getD t = x.getD u)
    {oy ox l : Nat} (h : oy + l + ox = x.len) :
    (⟨y.mem, y.off + oy, l⟩ : Slice).toList = (⟨x.mem, x.off + ox, l⟩ : Slice).toList.reverse := by
  apply List.ext_getElem?
  intro i
  by_cases hi : i < l
  · rw [Slice.toList_getElem? _ i hi, List.getElem?_reverse (by simpa using hi),
      Slice.toList_length, Slice.toList_getElem? _ _ (Nat.sub_one_sub_lt hi),
      Slice.drop_getD, Slice.drop_getD, hget (oy + i) (ox + (l - 1 - i)) (by omega)]
  · rw [List.getElem?_eq_none (by simpa using hi), List.getElem?_eq_none (by simpa using hi)]

/-- `Shift::reverse(x, p, critr)` and `Shift::forward(reverse x, p, critf)` at mirrored positions
return the same value (the counters differ: `is_prefix` and `is_suffix` load different
addresses) -/
theorem shift_reverse_sim (x y : Slice) (hxv : x.Valid) (hyv : y.Valid) (hlen : y.len = x.len)
    (hget : ∀ t u, t + u + 1 = x.len → y.getD t = x.getD u)
    (p critf critr : Nat) (cf cr : Ctr) (hcrit : critr + critf = x.len) (hp : p ≤ critr) :
    ∃ sh c1 c2, Shift.forward y p critf cf = .ok sh c1 ∧
      Shift.reverse x p critr cr = .ok sh c2 ∧ c2.steps ≤ cr.steps + x.len / 4 + 2 := by
  -- `x = e p critf` and `y = critf p e`
  obtain ⟨e, rfl⟩ := Nat.exists_eq_add_of_le' hp
  have hcf : critf ≤ x.len := hcrit ▸ Nat.le_add_left _ _
  have hcr : e + p ≤ x.len := hcrit ▸ Nat.le_add_right _ _
  have hsub : x.len - (e + p) = critf := Nat.sub_eq_of_eq_add' hcrit.symm
  have hsubf : x.len - critf = e + p := Nat.sub_eq_of_eq_add hcrit.symm
  unfold Shift.forward Shift.reverse
  simp only [hlen, csub_ok hcf, csub_ok hcr, pure_bind', hsub, hsubf, Nat.max_comm (e + p) critf]
  by_cases h2 : critf * 2 ≥ x.len
  · simp only [h2, if_true]
    exact ⟨_, cf, cr, rfl, rfl, Nat.le_trans (Nat.le_add_right _ _) (Nat.le_add_right _ _)⟩
  · simp only [h2, if_false, Slice.take_ok (hlen ▸ hcf), Slice.drop_ok (hlen ▸ hcf), pure_bind',
      Slice.take_ok hcr, Slice.drop_ok hcr, hlen, hsub, hsubf,
      Slice.take_ok (s := ⟨y.mem, y.off + critf, e + p⟩) (Nat.le_add_left p e),
      csub_eq (rfl : e + p = e + p),
      Slice.drop_ok (s := ⟨x.mem, x.off, e + p⟩) (Nat.le_add_right e p), Nat.add_sub_cancel_left]
    have hvu := Slice.take_valid hyv (hlen ▸ hcf)
    have hvvp : (⟨y.mem, y.off + critf, p⟩ : Slice).Valid :=
      Slice.take_valid (Slice.drop_valid hyv (hlen ▸ hcf))
        (show p ≤ y.len - critf from hlen ▸ hsubf ▸ Nat.le_add_left p e)
    have hvu' := Slice.drop_valid hxv hcr
    rw [hsub] at hvu'
    have hvvs : (⟨x.mem, x.off + e, p⟩ : Slice).Valid := by
      have := Slice.drop_valid (Slice.take_valid hxv hcr) (Nat.le_add_right e p)
      rwa [Nat.add_sub_cancel_left] at this
    obtain ⟨c1, e1, _⟩ := IsEqual.isSuffix_correct ⟨y.mem, y.off + critf, p⟩ ⟨y.mem, y.off, critf⟩
      cf hvvp hvu
    obtain ⟨c2, e2, hs2⟩ := IsEqual.isPrefix_correct ⟨x.mem, x.off + e, p⟩
      ⟨x.mem, x.off + (e + p), critf⟩ cr hvvs hvu'
    have hs2' : c2.steps ≤ cr.steps + x.len / 4 + 2 := quarter_steps_mono hs2 hcf
    rw [bind_ok e1, bind_ok e2]
    -- the two tests agree
    have hu : (⟨y.mem, y.off, critf⟩ : Slice).toList =
        (⟨x.mem, x.off + (e + p), critf⟩ : Slice).toList.reverse :=
      toList_mirror hget (oy := 0) (by omega)
    have hv : (⟨y.mem, y.off + critf, p⟩ : Slice).toList =
        (⟨x.mem, x.off + e, p⟩ : Slice).toList.reverse :=
      toList_mirror hget (by omega)
    simp only [hu, hv, List.reverse_suffix]
    split
    · exact ⟨_, c1, c2, rfl, rfl, hs2'⟩
    · exact ⟨_, c1, c2, rfl, rfl, hs2'⟩

/-- **`FinderRev::new(x)` and `Finder::new(reverse x)`** both return normally, with mirrored
critical positions and the same shift. -/
theorem finderRev_new_sim (x : Slice) (hxv : x.Valid) (c : Ctr) :
    ∃ twf cf twr cr, Finder.new (revSlice x) c = .ok twf cf ∧ FinderRev.new x c = .ok twr cr ∧
      twr.criticalPos + twf.criticalPos = x.len ∧ twr.shift = twf.shift ∧
      cr.steps ≤ c.steps + 6 * x.len + 2 ∧ ∀ t, t < x.len → twr.byteset.has (x.getD t) = true := by
  have hlen := revSlice_len hxv
  have hyv := revSlice_valid x
  have hget := revSlice_getD hxv
  obtain ⟨bsf, ebsf, _⟩ := byteset_new_spec (revSlice x) c
  obtain ⟨bsr, ebsr, hbsr⟩ := byteset_new_spec x c
  rw [hlen] at ebsf
  unfold Finder.new FinderRev.new
  rw [bind_ok ebsf, bind_ok ebsr]
  by_cases h0 : x.len = 0
  · rw [bind_ok (suffix_forward_empty (revSlice x) _ _ (hlen.trans h0)),
      bind_ok (suffix_forward_empty (revSlice x) _ _ (hlen.trans h0)),
      bind_ok (suffix_reverse_empty x _ _ h0), bind_ok (suffix_reverse_empty x _ _ h0)]
    simp only [Nat.lt_irrefl, if_false, Shift.forward, Shift.reverse, h0, hlen,
      csub_ok (Nat.le_refl 0), pure_bind', Nat.zero_mul, ge_iff_le, Nat.le_refl, if_true]
    exact ⟨_, _, _, _, rfl, rfl, rfl, rfl, by simp, fun t ht => by omega⟩
  · have hn : 0 < (revSlice x).len := by omega
    obtain ⟨s1, c1, r1, ef1, er1, hs1⟩ := suffix_reverse_sim x (revSlice x) hlen hget .minimal
      { c with steps := c.steps + x.len }
    obtain ⟨s2, c2, r2, ef2, er2, hs2⟩ := suffix_reverse_sim x (revSlice x) hlen hget .maximal c1
    obtain ⟨w1, hst1, _⟩ := Holds.of_run (suffix_forward_full (revSlice x) .minimal
      { c with steps := c.steps + x.len } hn) ef1
    obtain ⟨w2, hst2, _⟩ := Holds.of_run (suffix_forward_full (revSlice x) .maximal c1 hn) ef2
    have hl1 := w1.ip
    have hl2 := w2.ip
    rw [hlen] at hl1 hl2 hst1 hst2
    rw [bind_ok ef1, bind_ok ef2, bind_ok er1, bind_ok er2]
    by_cases hgt : s1.pos > s2.pos
    · simp only [hgt, if_true, show r1 < r2 by omega]
      obtain ⟨sh, cf, cr, e1, e2, hst3⟩ := shift_reverse_sim x (revSlice x) hxv hyv hlen hget
        (p := s1.period) (critf := s1.pos) (critr := r1) (cf := c2) (cr := c2) hs1 (by omega)
      rw [bind_ok e1, bind_ok e2]
      exact ⟨_, _, _, _, rfl, rfl, hs1, rfl, new_steps hst1 hst2 hst3, hbsr⟩
    · simp only [hgt, if_false, show ¬ r1 < r2 by omega]
      obtain ⟨sh, cf, cr, e1, e2, hst3⟩ := shift_reverse_sim x (revSlice x) hxv hyv hlen hget
        (p := s2.period) (critf := s2.pos) (critr := r2) (cf := c2) (cr := c2) hs2 (by omega)
      rw [bind_ok e1, bind_ok e2]
      exact ⟨_, _, _, _, rfl, rfl, hs2, rfl, new_steps hst1 hst2 hst3, hbsr⟩

/-- **Constructor, everything about one run.**  `FinderRev::new(needle)` never faults.  After the
run, the conjuncts in order (those of `finder_new_full`): *steps* (at most `6 * len + 2`), *bs*
(the byte set has no false negatives), *cert* (the `critical_pos` and `shift` it stores satisfy
`CertRev`), *large* (a `Large` shift lies in `[len / 2, len]`). -/
theorem finderRev_new_full (needle : Slice) (c : Ctr) (hnv : needle.Valid) :
    ∃ tw c', FinderRev.new needle c = .ok tw c' ∧
      c'.steps ≤ c.steps + 6 * needle.len + 2 ∧
      (∀ b, b ∈ needle.toArray → tw.byteset.has b = true) ∧
      CertRev needle.toArray tw.criticalPos tw.shift ∧
      (∀ s, tw.shift = .large s → needle.len ≤ 2 * s ∧ s ≤ needle.len) := by
  obtain ⟨twf, cf, twr, cr, ef, er, hcrit, hshift, hst, hbs⟩ := finderRev_new_sim needle hnv c
  obtain ⟨_, _, hcert, hlarge, _⟩ :=
    Holds.of_run (finder_new_full (revSlice needle) c (revSlice_valid _)) ef
  refine ⟨twr, cr, er, hst, fun b hb => ?_, ?_, ?_⟩
  · obtain ⟨t, ht, rfl⟩ := (Slice.mem_toArray_iff hnv).mp hb
    exact hbs t ht
  · rw [certRev_iff_certFwd_reverse, Slice.toArray_size hnv, hshift,
      Nat.sub_eq_of_eq_add' hcrit.symm, ← revSlice_toArray]
    exact ⟨hcrit ▸ Nat.le_add_right _ _, hcert⟩
  · rw [hshift, ← revSlice_len hnv]
    exact hlarge

/-- **Constructor.**  `FinderRev::new(needle)` never faults.  After the run, the conjuncts in
order (those of `finder_new_spec`): *steps* (at most `6 * len + 2`), *bs* (the byte set has no
false negatives), *crit* (`critical_pos <= len`), *sound* (for a non-empty needle the result
satisfies `SoundPreRev`: `1 <= critical_pos <= len`, shift value in `[1, len]`; `Small`: `period`
is a period of the needle and `len - critical_pos <= period`), *half* (a `Large` shift is at least
half the length). -/
theorem finderRev_new_spec (needle : Slice) (c : Ctr) (hnv : needle.Valid) :
    ∃ tw c', FinderRev.new needle c = .ok tw c' ∧
      c'.steps ≤ c.steps + 6 * needle.len + 2 ∧
      (∀ b, b ∈ needle.toArray → tw.byteset.has b = true) ∧
      tw.criticalPos ≤ needle.len ∧
      (0 < needle.len → SoundPreRev needle.toArray tw.criticalPos tw.shift) ∧
      (∀ s, tw.shift = .large s → needle.len ≤ 2 * s) := by
  obtain ⟨tw, c', e, hst, hbs, hcert, hlarge⟩ := finderRev_new_full needle c hnv
  have hsz := Slice.toArray_size hnv
  exact ⟨tw, c', e, hst, hbs, hsz ▸ hcert.1.1,
    fun hn => hcert.soundPre (hsz ▸ hn), fun s hs => (hlarge s hs).1⟩

example : CertRev "abaab".toUTF8.data 4 (.small 3) ↔
    4 ≤ "abaab".toUTF8.data.size ∧ CertFwd "abaab".toUTF8.data.reverse (5 - 4) (.small 3) :=
  certRev_iff_certFwd_reverse _ _ _

#print axioms certRev_iff_certFwd_reverse
#print axioms suffix_reverse_sim
#print axioms finderRev_new_sim

end Memchr.TwoWay
