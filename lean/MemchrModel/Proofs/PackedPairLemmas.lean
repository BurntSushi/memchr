/-
Packed pair: lane facts, the notions "pair matches" / "`find` reports" at an offset from `start`,
the geometry shared by `find` and `find_prefilter`, and the run lemmas for `pairEq`, `candLoop`,
`findInChunk`, `findPrefilterInChunk`.  Answers are `IsLeast` statements over lanes.
-/
import MemchrModel.Base.Least
import MemchrModel.Proofs.MemchrGenericVec
import MemchrModel.Proofs.IsEqual
import MemchrModel.Model.PackedPair

namespace Memchr.PackedPair

open Memchr.Generic

/-- the pair of bytes matches when the needle is placed at address `a` -/
def candA (f : Finder) (hm : Mem) (a : Nat) : Bool :=
  hm.byteAt (a + f.index1) == f.b1 && hm.byteAt (a + f.index2) == f.b2

/-- lane predicate of the chunk at `cur` -/
def candF (f : Finder) (hm : Mem) (cur : Nat) : Nat → Bool := fun i => candA f hm (cur + i)

/-- the search needle fits below `end_` at address `a` and `is_equal_raw` returns true -/
def MatchAt (hm : Mem) (needle : Slice) (end_ a : Nat) : Prop :=
  a + needle.len ≤ end_ ∧ needle.mem.window needle.ptr needle.len = hm.window a needle.len

/-- the pair of bytes matches at offset `q` from `start` -/
def CandO (f : Finder) (hm : Mem) (start q : Nat) : Prop := candA f hm (start + q) = true

/-- what `find` reports, as an offset from `start`: the pair matches and the search needle
compares equal -/
def HitO (f : Finder) (hm : Mem) (needle : Slice) (start end_ q : Nat) : Prop :=
  CandO f hm start q ∧ MatchAt hm needle end_ (start + q)

theorem candF_iff (f : Finder) (hm : Mem) (start i k : Nat) :
    candF f hm (start + i) k = true ↔ CandO f hm start (i + k) := by
  unfold candF CandO
  rw [Nat.add_assoc]

/-- a call on a haystack of `m + min_haystack_len` bytes at `start`: the loops run with
`max = start + m` and `end = start + m + min_haystack_len`, and `min_haystack_len` covers both
vector loads and exceeds one vector (the two indices differ, so `max_index >= 1`) -/
structure Geom (V : VecImpl) (f : Finder) (hm : Mem) (start m end_ : Nat) : Prop where
  hb : hm.base ≤ start
  hend : start + m + f.minHaystackLen = end_
  he : end_ ≤ hm.base + hm.bytes.size
  hmin : max f.index1 f.index2 + V.bytes ≤ f.minHaystackLen
  hmin2 : V.bytes < f.minHaystackLen

/-- the address arithmetic of a chunk at offset `i ≤ m`.  In this order, of the chunk address
`start + i`: it is not below the region; the farther of the two loads (`idx` is the larger index)
ends at or before `end`; a whole vector from it ends inside the region (`cur.add(BYTES)`); it is
inside the region (`matched`) -/
theorem chunk_geom {base size start m minLen idx B i E : Nat} (hb : base ≤ start)
    (hend : start + m + minLen = E) (he : E ≤ base + size) (hmin : idx + B ≤ minLen)
    (hi : i ≤ m) :
    base ≤ start + i ∧ start + i + idx + B ≤ E ∧ start + i + B ≤ base + size ∧
      start + i ≤ base + size := by
  omega

theorem matched_bind {β : Type} {hm : Mem} {start i k : Nat} {g : Nat → M β} {c : Ctr}
    {Q : β → Ctr → Prop} (h1 : hm.base ≤ start) (h3 : start + i ≤ hm.base + hm.bytes.size)
    (h : Holds (g (i + k)) c Q) : Holds (matched hm start (start + i) k >>= g) c Q := by
  unfold matched
  rw [Mem.distance_eq rfl h1 h3, pure_bind']
  exact h

variable {V : VecImpl}

theorem pairEq_spec (who : String) (f : Finder) (hm : Mem) (cur : Nat) (c : Ctr)
    (hb : hm.base ≤ cur)
    (hrd : cur + max f.index1 f.index2 + V.bytes ≤ hm.base + hm.bytes.size) :
    ∃ c', pairEq V who f hm cur c = .ok (bvec V.bytes (candF f hm cur)) c' ∧
      c'.steps = c.steps + 1 := by
  have h1 : cur + f.index1 + V.bytes ≤ hm.base + hm.bytes.size :=
    Nat.le_trans (Nat.add_le_add_right (Nat.add_le_add_left (Nat.le_max_left _ _) _) _) hrd
  have h2 : cur + f.index2 + V.bytes ≤ hm.base + hm.bytes.size :=
    Nat.le_trans (Nat.add_le_add_right (Nat.add_le_add_left (Nat.le_max_right _ _) _) _) hrd
  apply Holds.val
  unfold pairEq VecImpl.loadU
  apply Holds.padd_bind hb (Nat.le_trans (Nat.le_add_right _ _) h1)
  apply Holds.loadU_bind (Nat.le_add_right_of_le hb) h1
  apply Holds.padd_bind hb (Nat.le_trans (Nat.le_add_right _ _) h2)
  apply Holds.loadU_bind (Nat.le_add_right_of_le hb) h2
  apply Holds.tick_bind
  refine Holds.pure ⟨?_, rfl⟩
  rw [cmpeq_window_splat, cmpeq_window_splat, and_bvec]
  apply bvec_congr
  intro i _
  show (_ && _) = (_ && _)
  rw [Nat.add_right_comm cur f.index1 i, Nat.add_right_comm cur f.index2 i]

/-- cost of one candidate: the `PP_CANDIDATE` tick plus `is_equal_raw` -/
def candCost (needle : Slice) : Nat := needle.len / 4 + 3

/-- the arithmetic of the candidate at lane `k`, the first of at most `rem' + 1` that are left;
`lim = end.sub(needle.len())`.  In this order: the lanes after `k` are at most `rem'` from the top;
past `lim` the needle fits at no lane from `k` on; `cur.add(k)` and `lim` are addresses of the
region; at or before `lim` the needle at lane `k` lies in the region and below `end` -/
theorem cand_geom {base size cur end_ lim B rem' k nl : Nat} (hcur : cur + B ≤ end_)
    (he : end_ ≤ base + size) (hgood : base + nl ≤ end_) (hlim : lim + nl = end_)
    (hrem : B ≤ k + (rem' + 1)) (hk : k < B) :
    (∀ i, k < i → B ≤ i + rem') ∧ (lim < cur + k → ∀ j, k ≤ j → ¬ cur + j + nl ≤ end_) ∧
      cur + k ≤ base + size ∧ base ≤ lim ∧
      (¬ lim < cur + k → cur + k + nl ≤ base + size ∧ cur + k + nl ≤ end_) :=
  ⟨fun i hi => by omega, fun h j hj => by omega, by omega⟩

/-- Popping the lowest set lane `k` of a non-empty mask: `first_offset` returns it, and
`clear_least_significant_bit` (run from any counter) removes it and nothing else. -/
theorem pop_lowest (L : Lawful V) {mk : V.Mask} (hwf : L.wf mk) (hnz : V.hasNonZero mk = true)
    (c : Ctr) :
    ∃ k, V.firstOffset mk c = .ok k c ∧ k < V.bytes ∧ L.bit mk k = true ∧
      (∀ j, L.bit mk j = true → k ≤ j) ∧
      ∀ c1, ∃ m', V.clearLSB mk c1 = .ok m' c1 ∧ L.wf m' ∧
        ∀ j, L.bit m' j = true ↔ L.bit mk j = true ∧ j ≠ k := by
  have hex := (L.hasNonZero_iff mk hwf).mp hnz
  obtain ⟨k, hfo, hk, hmin⟩ := L.firstOffset_spec mk c hwf hex
  refine ⟨k, hfo, L.bit_lt mk k hwf hk, hk, fun j hj => Nat.le_of_not_lt fun hjk => ?_,
    fun c1 => ?_⟩
  · rw [hmin j hjk] at hj
    cases hj
  · obtain ⟨m', hcl, hwf', hbits⟩ := L.clearLSB_spec mk c1 hwf hex
    exact ⟨m', hcl, hwf', fun j => by rw [hbits k ⟨hk, hmin⟩ j, Bool.and_eq_true, bne_iff_ne]⟩

/-- The candidate loop answers the first set lane of `mk` at which the needle matches.  Every
set lane is at most `rem` lanes from the top (`hrem`), which bounds both the fuel needed and the
cost. -/
theorem candLoop_spec (L : Lawful V) {hm : Mem} {needle : Slice} {cur end_ : Nat}
    (hv : needle.Valid) (hb : hm.base ≤ cur) (hcur : cur + V.bytes ≤ end_)
    (he : end_ ≤ hm.base + hm.bytes.size) (hgood : hm.base + needle.len ≤ end_)
    {fuel rem : Nat} {mk : V.Mask} (c : Ctr) (hwf : L.wf mk)
    (hrem : ∀ i, L.bit mk i = true → V.bytes ≤ i + rem) (hfuel : rem + 1 ≤ fuel) :
    Holds (candLoop V hm needle cur end_ fuel mk) c fun r c' =>
      IsLeast (fun k => L.bit mk k = true ∧ MatchAt hm needle end_ (cur + k)) 0 V.bytes r ∧
      c'.steps ≤ c.steps + rem * candCost needle := by
  induction fuel generalizing rem mk c with
  | zero => exact absurd hfuel (Nat.not_succ_le_zero _)
  | succ fuel ih =>
    rw [candLoop]
    refine Holds.ite (fun hnz => ?_) (fun hnz => ?_)
    · obtain ⟨k, hfo, hklt, hk, hge, hclear⟩ :=
        pop_lowest L hwf hnz { c with steps := c.steps + 1 }
      obtain ⟨rem', rfl⟩ : ∃ rem', rem = rem' + 1 :=
        Nat.exists_eq_add_one_of_ne_zero fun h0 =>
          absurd (hrem k hk) (by rw [h0]; exact Nat.not_le.mpr hklt)
      obtain ⟨lim, hlim⟩ : ∃ lim, lim + needle.len = end_ :=
        ⟨end_ - needle.len, Nat.sub_add_cancel (Nat.le_trans (Nat.le_add_left _ _) hgood)⟩
      obtain ⟨grem, glate, g1, g2, g3⟩ := cand_geom hcur he hgood hlim (hrem k hk) hklt
      -- one of the `rem' + 1` shares pays for this candidate, which costs its tick at least
      rw [Nat.add_one_mul]
      have htick : 1 ≤ candCost needle := Nat.le_add_left 1 (needle.len / 4 + 2)
      apply Holds.tick_bind
      apply Holds.run_bind hfo
      apply Holds.padd_bind hb g1
      rw [Mem.psub_eq hlim g2 he, pure_bind']
      refine Holds.ite (fun hlt => ?_) (fun hlt => ?_)
      · exact Holds.pure ⟨fun j _ _ hq => glate hlt j (hge j hq.1) hq.2.1,
          Nat.add_le_add_left (Nat.le_add_left_of_le htick) _⟩
      · apply Holds.bind (Holds.of_val (IsEqual.isEqualRaw_correct needle.mem hm needle.ptr
          (cur + k) needle.len _ hv.ptr_le hv.endPtr_le (Nat.le_add_right_of_le hb) (g3 hlt).1))
        rintro _ c1 ⟨rfl, hc1⟩
        have hc1' : c1.steps ≤ c.steps + candCost needle := by
          simp only at hc1; unfold candCost; omega
        refine Holds.ite (fun hw => ?_) (fun hw => ?_)
        · exact Holds.pure ⟨⟨Nat.zero_le _, hklt, ⟨hk, (g3 hlt).2, of_decide_eq_true hw⟩,
            fun j _ hj hq => Nat.not_lt.mpr (hge j hq.1) hj⟩,
            Nat.le_trans hc1' (Nat.add_le_add_left (Nat.le_add_left _ _) _)⟩
        · obtain ⟨m', hcl, hwf', hbits⟩ := hclear c1
          apply Holds.run_bind hcl
          apply Holds.mono (ih c1 hwf'
            (fun i hi => grem i
              (Nat.lt_of_le_of_ne (hge i ((hbits i).mp hi).1) (Ne.symm ((hbits i).mp hi).2)))
            (Nat.le_of_succ_le_succ hfuel))
          intro r c' ⟨hres, hcost⟩
          refine ⟨hres.congr fun j _ _ => ?_, by omega⟩
          -- lane `k` is the only one cleared, and it is no match
          show (L.bit m' j = true ∧ _) ↔ (L.bit mk j = true ∧ _)
          rw [hbits j]
          exact ⟨fun h => ⟨h.1.1, h.2⟩,
            fun h => ⟨⟨h.1, fun e => hw (decide_eq_true (e ▸ h.2.2))⟩, h.2⟩⟩
    · exact Holds.pure ⟨fun j _ _ hq => hnz ((L.hasNonZero_iff mk hwf).mpr ⟨j, hq.1⟩),
        Nat.le_add_right _ _⟩

/-- what `all_zeros_except_least_significant(n)` is known to be: `and`-ing with it keeps every
lane from `n` on and introduces none (for NEON fewer than `n` lanes may be cleared) -/
def KeepsFrom (L : Lawful V) (n : Nat) (mask : V.Mask) : Prop :=
  ∀ m, L.wf m → L.wf (V.mand m mask) ∧ (∀ i, L.bit (V.mand m mask) i = true → L.bit m i = true) ∧
    ∀ i, n ≤ i → L.bit (V.mand m mask) i = L.bit m i

theorem KeepsFrom.rep {L : Lawful V} {mask : V.Mask} (h : KeepsFrom L 0 mask) (g : Nat → Bool) :
    MaskRep L (V.mand (V.movemask (bvec V.bytes g)) mask) g := by
  have hrep := MaskRep.movemask L g
  obtain ⟨w1, -, w3⟩ := h _ hrep.1
  exact ⟨w1, fun i hi => by rw [w3 i (Nat.zero_le _), hrep.2 i hi]⟩

/-- cost of one chunk: the `PP_CHUNK` tick plus at most `V.bytes` candidates -/
def chunkCost (V : VecImpl) (needle : Slice) : Nat := 1 + V.bytes * candCost needle

/-- no vector type has more than 32 lanes -/
theorem chunkCost_le (L : Lawful V) (needle : Slice) :
    chunkCost V needle ≤ 1 + 32 * candCost needle :=
  Nat.add_le_add_left (Nat.mul_le_mul_right _ L.bytes_le) 1

/-- `find_in_chunk` at offset `i` answers the first lane that is a hit.  The mask may hide lanes
below `n` only, and those need not be looked at: the caller has excluded them (`hskip`); so it
does not matter which of them the mask really clears. -/
theorem findInChunk_good (L : Lawful V) {f : Finder} {hm : Mem} {needle : Slice}
    {start i end_ n : Nat} {mask : V.Mask} (c : Ctr)
    (hv : needle.Valid) (hb : hm.base ≤ start + i)
    (hrd : start + i + max f.index1 f.index2 + V.bytes ≤ end_)
    (he : end_ ≤ hm.base + hm.bytes.size) (hgood : hm.base + needle.len ≤ end_)
    (hmask : KeepsFrom L n mask)
    (hskip : ∀ k, k < n → ¬ HitO f hm needle start end_ (i + k)) :
    ∃ r c', findInChunk V f hm needle (start + i) end_ mask c = .ok r c' ∧
      IsLeast (fun k => HitO f hm needle start end_ (i + k)) 0 V.bytes r ∧
      c'.steps ≤ c.steps + chunkCost V needle := by
  obtain ⟨c1, hpe, hc1⟩ := pairEq_spec (V := V) "find_in_chunk" f hm (start + i) c hb
    (Nat.le_trans hrd he)
  have hrep := MaskRep.movemask L (candF f hm (start + i))
  obtain ⟨w1, w2, w3⟩ := hmask _ hrep.1
  obtain ⟨r, c', hrun, hres, hcost⟩ := candLoop_spec L hv hb
    (Nat.le_trans (Nat.add_le_add_right (Nat.le_add_right _ _) _) hrd) he hgood c1 w1
    (rem := V.bytes) (fun i _ => Nat.le_add_left _ _) (Nat.le_refl _)
  refine ⟨r, c', by unfold findInChunk; rw [bind_ok hpe]; exact hrun,
    hres.congr fun k _ hk => ?_, by unfold chunkCost; omega⟩
  unfold HitO
  rw [← candF_iff, ← Nat.add_assoc]
  refine and_congr_left fun hmatch => ?_
  by_cases hnk : n ≤ k
  · rw [w3 k hnk, hrep.2 k hk]
  · have hnot : ¬ candF f hm (start + i) k = true := fun hc =>
      hskip k (Nat.lt_of_not_le hnk) ⟨(candF_iff f hm start i k).mp hc,
        by rw [← Nat.add_assoc]; exact hmatch⟩
    exact ⟨fun hbit => absurd (hrep.2 k hk ▸ w2 k hbit) hnot, fun hc => absurd hc hnot⟩

/-- `end.sub(needle.len())` leaves the allocation (the search needle is longer than the part
of the region up to the end of the haystack): the first candidate faults, no candidate is
harmless. -/
theorem findInChunk_bad (L : Lawful V) {f : Finder} {hm : Mem} (needle : Slice)
    {start i end_ : Nat} {all : V.Mask} (c : Ctr)
    (hb : hm.base ≤ start + i) (hrd : start + i + max f.index1 f.index2 + V.bytes ≤ end_)
    (he : end_ ≤ hm.base + hm.bytes.size) (hbad : end_ < hm.base + needle.len)
    (hall : KeepsFrom L 0 all) :
    ((∃ j, j < V.bytes ∧ CandO f hm start (i + j)) ∧
      findInChunk V f hm needle (start + i) end_ all c =
        .fault (.ptrOob "find_in_chunk: end.sub(needle.len())")) ∨
    ((∀ j, j < V.bytes → ¬ CandO f hm start (i + j)) ∧
      ∃ c', findInChunk V f hm needle (start + i) end_ all c = .ok none c') := by
  obtain ⟨c1, hpe, -⟩ := pairEq_spec (V := V) "find_in_chunk" f hm (start + i) c hb
    (Nat.le_trans hrd he)
  have hmask := hall.rep (candF f hm (start + i))
  unfold findInChunk
  rw [bind_ok hpe]
  unfold candLoop
  by_cases hnz : V.hasNonZero (V.mand (V.movemask (bvec V.bytes (candF f hm (start + i)))) all)
      = true
  · left
    obtain ⟨j, hj, hcj⟩ := hmask.hasNonZero_iff.mp hnz
    refine ⟨⟨j, hj, (candF_iff f hm start i j).mp hcj⟩, ?_⟩
    obtain ⟨k, hfo, hk, -, -⟩ := hmask.firstOffset ⟨j, hj, hcj⟩ { c1 with steps := c1.steps + 1 }
    have hcur : start + i + V.bytes ≤ end_ :=
      Nat.le_trans (Nat.add_le_add_right (Nat.le_add_right _ _) _) hrd
    have hpa := Mem.padd_ok hm "find_in_chunk: cur.add(offset)" (start + i) k hb
      (Nat.le_trans (Nat.add_le_add_left (Nat.le_of_lt hk) _) (Nat.le_trans hcur he))
    have hps : hm.psub "find_in_chunk: end.sub(needle.len())" end_ needle.len =
        fail (.ptrOob "find_in_chunk: end.sub(needle.len())") := by
      simp [Mem.psub, Nat.not_le.mpr hbad]
    simp only [hnz, if_true, M.bind_run, tick_run, hfo, hpa, hps, M.pure_run, fail_run]
  · right
    refine ⟨fun j hj hc =>
      hnz (hmask.hasNonZero_iff.mpr ⟨j, hj, (candF_iff f hm start i j).mpr hc⟩), c1, ?_⟩
    simp only [hnz, Bool.false_eq_true, if_false, M.pure_run]

theorem findPrefilterInChunk_spec (L : Lawful V) (f : Finder) (hm : Mem) (start i : Nat) (c : Ctr)
    (hb : hm.base ≤ start + i)
    (hrd : start + i + max f.index1 f.index2 + V.bytes ≤ hm.base + hm.bytes.size) :
    ∃ r c', findPrefilterInChunk V f hm (start + i) c = .ok r c' ∧
      IsLeast (fun k => CandO f hm start (i + k)) 0 V.bytes r ∧ c'.steps = c.steps + 1 := by
  have hrep := MaskRep.movemask L (candF f hm (start + i))
  unfold findPrefilterInChunk
  apply Holds.bind (Holds.of_val (pairEq_spec "find_prefilter_in_chunk" f hm (start + i) c hb hrd))
  rintro _ c1 ⟨rfl, hc1⟩
  refine Holds.ite (fun hz => ?_) (fun hnz => ?_)
  · refine Holds.pure ⟨fun j _ hj hc => ?_, hc1⟩
    rw [hrep.hasNonZero_iff.mpr ⟨j, hj, (candF_iff f hm start i j).mpr hc⟩] at hz
    cases hz
  · obtain ⟨k, hfo, hk, hgk, hmin⟩ := hrep.firstOffset
      (hrep.hasNonZero_iff.mp (by simpa using hnz)) c1
    apply Holds.run_bind hfo
    refine Holds.pure ⟨⟨Nat.zero_le _, hk, (candF_iff f hm start i k).mp hgk,
      fun j _ hj hc => ?_⟩, hc1⟩
    exact Bool.false_ne_true ((hmin j hj).symm.trans ((candF_iff f hm start i j).mpr hc))

end Memchr.PackedPair
