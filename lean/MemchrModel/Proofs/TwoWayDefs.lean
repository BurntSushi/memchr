/-
Shared definitions for the Two-Way proofs: periods, local repetitions and the decidable
certificates `CertFwd` / `CertRev` about the needle alone under which the forward / reverse
search loops are correct (DESIGN section 8, T4), each with an executable checker
(`certFwdCheck`, `certRevCheck`) and the proof that the checker decides the certificate.

`x` is the needle as an `Array UInt8`, `crit` the critical position.
-/
import MemchrModel.Model.TwoWay

namespace Memchr.TwoWay

/-- `k >= 1` is a period of `x`: `x[t] = x[t + k]` whenever `t + k < |x|` -/
def Per (x : Array UInt8) (k : Nat) : Prop :=
  1 ≤ k ∧ ∀ t, t + k < x.size → x[t]? = x[t + k]?

/-- `k` is a local repetition of `x` at position `c`: `x[t] = x[t + k]` for every `t` with
`c - k <= t < c` and `t + k < |x|` -/
def LR (x : Array UInt8) (c k : Nat) : Prop :=
  ∀ t, c ≤ t + k → t < c → t + k < x.size → x[t]? = x[t + k]?

/-- the critical-factorisation property in the strong form used by the loops: every local
repetition at `crit` is a period of the whole needle and exceeds `crit` -/
def Core (x : Array UInt8) (crit : Nat) : Prop :=
  ∀ k, 1 ≤ k → LR x crit k → Per x k ∧ crit < k

/-- The certificate for the forward search loops: a statement about the needle alone.
`Small period`: `period` is the smallest period.  `Large shift`: `shift` is at most the
smallest period (and positive when the needle is not empty; `Finder::new` yields
`Large { shift: 0 }` for the empty needle, which never enters a loop). -/
def CertFwd (x : Array UInt8) (crit : Nat) (shift : Shift) : Prop :=
  Core x crit ∧
  match shift with
  | .large s => (0 < x.size → 1 ≤ s) ∧ ∀ k, Per x k → s ≤ k
  | .small p => Per x p ∧ ∀ k, Per x k → p ≤ k

/-- What soundness of a reported match (`find_sound`) needs about the `TwoWay` value instead of
a certificate: the critical position is inside the needle and the shift is positive; in the
`Small` case additionally that `period` really is a period of the needle with
`critical_pos <= period <= len`.  `Finder::new` establishes all of it
(`Proofs/TwoWayNew.lean`: the `Suffix::forward` invariants (I0), (I1) and `Shift::forward`'s
own `is_suffix(&v[..period], u)` test). -/
def SoundPre (x : Array UInt8) (crit : Nat) : Shift → Prop
  | .large s => crit ≤ x.size ∧ 1 ≤ s
  | .small p => crit < x.size ∧ Per x p ∧ crit ≤ p ∧ p ≤ x.size

theorem per_of_size_le (x : Array UInt8) {k : Nat} (h1 : 1 ≤ k) (h : x.size ≤ k) : Per x k :=
  ⟨h1, fun t ht => by omega⟩

theorem lr_of_size_le (x : Array UInt8) (c : Nat) {k : Nat} (h : x.size ≤ k) : LR x c k :=
  fun t _ _ ht => by omega

theorem Per.lr {x : Array UInt8} {k : Nat} (h : Per x k) (c : Nat) : LR x c k :=
  fun t _ _ ht => h.2 t ht

theorem Core.crit_le {x : Array UInt8} {crit : Nat} (h : Core x crit) : crit ≤ x.size := by
  have := (h (x.size + 1) (by omega) (lr_of_size_le x crit (by omega))).2
  omega

theorem Core.crit_lt {x : Array UInt8} {crit : Nat} (h : Core x crit) (hn : 0 < x.size) :
    crit < x.size :=
  (h x.size hn (lr_of_size_le x crit (Nat.le_refl _))).2

theorem min_per_le_size {x : Array UInt8} {p : Nat} (hmin : ∀ k, Per x k → p ≤ k)
    (hn : 0 < x.size) : p ≤ x.size :=
  hmin x.size (per_of_size_le x hn (Nat.le_refl _))

theorem Core.crit_lt_per {x : Array UInt8} {crit p : Nat} (h : Core x crit) (hp : Per x p) :
    crit < p :=
  (h p hp.1 (hp.lr crit)).2

/-- the clause `CertFwd` and `CertRev` share: the value stored in the shift, of either shape, is at
most every period -/
theorem shift_le_per {x : Array UInt8} {sh : Shift} {step : Nat}
    (h : match sh with
      | .large s => (0 < x.size → 1 ≤ s) ∧ ∀ k, Per x k → s ≤ k
      | .small p => Per x p ∧ ∀ k, Per x k → p ≤ k)
    (hs : sh = .small step ∨ sh = .large step) {k : Nat} (hk : Per x k) : step ≤ k := by
  rcases hs with rfl | rfl
  · exact h.2 k hk
  · exact h.2 k hk

theorem CertFwd.le_per {x : Array UInt8} {crit : Nat} {sh : Shift} (h : CertFwd x crit sh)
    {step : Nat} (hs : sh = .small step ∨ sh = .large step) {k : Nat} (hk : Per x k) :
    step ≤ k :=
  shift_le_per h.2 hs hk

theorem CertFwd.soundPre {x : Array UInt8} {crit : Nat} {sh : Shift} (h : CertFwd x crit sh)
    (hn : 0 < x.size) : SoundPre x crit sh := by
  obtain ⟨hcore, hsh⟩ := h
  cases sh with
  | small p =>
    exact ⟨hcore.crit_lt hn, hsh.1, Nat.le_of_lt (hcore.crit_lt_per hsh.1),
      min_per_le_size hsh.2 hn⟩
  | large s => exact ⟨hcore.crit_le, hsh.1 hn⟩

def perCheck (x : Array UInt8) (k : Nat) : Bool :=
  decide (1 ≤ k) && (List.range x.size).all (fun t => !decide (t + k < x.size) || x[t]? == x[t + k]?)

def lrCheck (x : Array UInt8) (c k : Nat) : Bool :=
  (List.range c).all (fun t => !(decide (c ≤ t + k) && decide (t + k < x.size)) || x[t]? == x[t + k]?)

def coreCheck (x : Array UInt8) (crit : Nat) : Bool :=
  (List.range (x.size + 2)).all (fun k =>
    !decide (1 ≤ k) || !lrCheck x crit k || (perCheck x k && decide (crit < k)))

/-- no `k < s` is a period -/
def minPerCheck (x : Array UInt8) (s : Nat) : Bool :=
  (List.range s).all (fun k => !perCheck x k)

def certFwdCheck (x : Array UInt8) (crit : Nat) (shift : Shift) : Bool :=
  coreCheck x crit &&
  match shift with
  | .large s => (!decide (0 < x.size) || decide (1 ≤ s)) && minPerCheck x s
  | .small p => perCheck x p && minPerCheck x p

/-- the checkers spell an implication as `!a || b` -/
theorem not_or_eq_true_iff {a b : Bool} : (!a || b) = true ↔ (a = true → b = true) := by
  cases a <;> simp

theorem perCheck_iff (x : Array UInt8) (k : Nat) : perCheck x k = true ↔ Per x k := by
  simp only [perCheck, Per, Bool.and_eq_true, decide_eq_true_eq, List.all_eq_true,
    List.mem_range, not_or_eq_true_iff, beq_iff_eq]
  -- `t + k < |x|` implies that `t` is in the range swept
  exact and_congr_right fun _ =>
    ⟨fun h t ht => h t (Nat.lt_of_le_of_lt (Nat.le_add_right t k) ht) ht, fun h t _ => h t⟩

theorem lrCheck_iff (x : Array UInt8) (c k : Nat) : lrCheck x c k = true ↔ LR x c k := by
  simp only [lrCheck, LR, List.all_eq_true, List.mem_range, not_or_eq_true_iff,
    Bool.and_eq_true, decide_eq_true_eq, beq_iff_eq]
  exact ⟨fun h t h1 h2 h3 => h t h2 ⟨h1, h3⟩, fun h t h2 h13 => h t h13.1 h2 h13.2⟩

/-- The sweep of `coreCheck` (`b = crit`) and `coreRevCheck` (`b = |x| - crit`).  It stops at
`|x| + 1`: every `k >= |x|` is a period and a local repetition, and `k = |x| + 1` is swept, so
`b <= |x|`. -/
theorem coreSweep_iff (x : Array UInt8) (crit b : Nat) :
    (List.range (x.size + 2)).all (fun k =>
      !decide (1 ≤ k) || !lrCheck x crit k || (perCheck x k && decide (b < k))) = true ↔
    ∀ k, 1 ≤ k → LR x crit k → Per x k ∧ b < k := by
  simp only [List.all_eq_true, List.mem_range, Bool.or_assoc, not_or_eq_true_iff,
    decide_eq_true_eq, Bool.and_eq_true, perCheck_iff, lrCheck_iff]
  refine ⟨fun h k h1 hlr => ?_, fun h k _ => h k⟩
  by_cases hk : k < x.size + 2
  · exact h k hk h1 hlr
  · have := (h (x.size + 1) (by omega) (by omega) (lr_of_size_le x crit (by omega))).2
    exact ⟨per_of_size_le x h1 (by omega), by omega⟩

theorem coreCheck_iff (x : Array UInt8) (crit : Nat) : coreCheck x crit = true ↔ Core x crit :=
  coreSweep_iff x crit crit

theorem minPerCheck_iff (x : Array UInt8) (s : Nat) :
    minPerCheck x s = true ↔ ∀ k, Per x k → s ≤ k := by
  simp only [minPerCheck, List.all_eq_true, List.mem_range, Bool.not_eq_true', Bool.eq_false_iff,
    ne_eq, perCheck_iff]
  exact ⟨fun h k hk => Nat.le_of_not_lt fun hks => h k hks hk,
    fun h k hks hk => Nat.not_le_of_lt hks (h k hk)⟩

theorem certFwdCheck_iff (x : Array UInt8) (crit : Nat) (shift : Shift) :
    certFwdCheck x crit shift = true ↔ CertFwd x crit shift := by
  cases shift <;>
    simp only [certFwdCheck, CertFwd, Bool.and_eq_true, coreCheck_iff, perCheck_iff,
      minPerCheck_iff, not_or_eq_true_iff, decide_eq_true_eq]

instance (x : Array UInt8) (crit : Nat) (shift : Shift) : Decidable (CertFwd x crit shift) :=
  decidable_of_iff _ (certFwdCheck_iff x crit shift)

/-! ### non-vacuity: the values `Finder::new` computes for a few periodic needles
(`#eval` of the model: "abaab" -> crit 2, Small 3; "aaaa" -> crit 0, Small 1;
"abcabcab" -> crit 2, Small 3; "abcde" -> crit 4, Large 4) -/

example : CertFwd "abaab".toUTF8.data 2 (.small 3) := by decide
example : CertFwd "aaaa".toUTF8.data 0 (.small 1) := by decide
example : CertFwd "abcabcab".toUTF8.data 2 (.small 3) := by decide
example : CertFwd #[] 0 (.large 0) := by decide

/-! ### the reverse direction (`FinderRev`): `CertRev`, the mirror image of `CertFwd`

The reverse searcher compares `x[..crit]` first, right to left, then `x[crit..]` left to right,
and moves its window to the left.  Under `t ↦ |x| - 1 - t` a local repetition at `crit` (`LR`, a
symmetric notion) is a local repetition at `|x| - crit` of the reversed needle and a period
stays a period, so the only clause that changes is `crit < k`, which becomes `|x| - crit < k`
(`Proofs/TwoWayRevBridge.lean`: `certRev_iff_certFwd_reverse`). -/

/-- the critical-factorisation property used by the reverse loops: the critical position is
inside the needle, and every local repetition at `crit` is a period of the whole needle and
exceeds the length `|x| - crit` of the right part -/
def CoreRev (x : Array UInt8) (crit : Nat) : Prop :=
  crit ≤ x.size ∧ ∀ k, 1 ≤ k → LR x crit k → Per x k ∧ x.size - crit < k

/-- The certificate for the reverse search loops: a statement about the needle alone.
`Small period`: `period` is the smallest period.  `Large shift`: `shift` is at most the
smallest period (and positive when the needle is not empty; `FinderRev::new` yields
`Large { shift: 0 }` for the empty needle, which never enters a loop). -/
def CertRev (x : Array UInt8) (crit : Nat) (shift : Shift) : Prop :=
  CoreRev x crit ∧
  match shift with
  | .large s => (0 < x.size → 1 ≤ s) ∧ ∀ k, Per x k → s ≤ k
  | .small p => Per x p ∧ ∀ k, Per x k → p ≤ k

/-- What soundness of a reported match (`rfind_sound`) needs about the `TwoWay` value instead
of a certificate: `1 <= critical_pos <= len`, the shift value is in `[1, len]`; in the `Small`
case additionally that `period` really is a period of the needle with
`len - critical_pos <= period`.  `FinderRev::new` establishes all of it
(`Proofs/TwoWayRevBridge.lean`). -/
def SoundPreRev (x : Array UInt8) (crit : Nat) : Shift → Prop
  | .large s => 1 ≤ crit ∧ crit ≤ x.size ∧ 1 ≤ s ∧ s ≤ x.size
  | .small p => 1 ≤ crit ∧ crit ≤ x.size ∧ Per x p ∧ x.size ≤ crit + p ∧ p ≤ x.size

theorem CoreRev.crit_pos {x : Array UInt8} {crit : Nat} (h : CoreRev x crit) (hn : 0 < x.size) :
    1 ≤ crit := by
  have := (h.2 x.size hn (lr_of_size_le x crit (Nat.le_refl _))).2
  omega

theorem CoreRev.lt_per {x : Array UInt8} {crit p : Nat} (h : CoreRev x crit) (hp : Per x p) :
    x.size - crit < p :=
  (h.2 p hp.1 (hp.lr crit)).2

theorem CertRev.le_per {x : Array UInt8} {crit : Nat} {sh : Shift} (h : CertRev x crit sh)
    {step : Nat} (hs : sh = .small step ∨ sh = .large step) {k : Nat} (hk : Per x k) :
    step ≤ k :=
  shift_le_per h.2 hs hk

theorem CertRev.soundPre {x : Array UInt8} {crit : Nat} {sh : Shift} (h : CertRev x crit sh)
    (hn : 0 < x.size) : SoundPreRev x crit sh := by
  obtain ⟨hcore, hsh⟩ := h
  cases sh with
  | small p =>
    have := hcore.lt_per hsh.1
    exact ⟨hcore.crit_pos hn, hcore.1, hsh.1, by omega, min_per_le_size hsh.2 hn⟩
  | large s => exact ⟨hcore.crit_pos hn, hcore.1, hsh.1 hn, min_per_le_size hsh.2 hn⟩

def coreRevCheck (x : Array UInt8) (crit : Nat) : Bool :=
  decide (crit ≤ x.size) &&
  (List.range (x.size + 2)).all (fun k =>
    !decide (1 ≤ k) || !lrCheck x crit k || (perCheck x k && decide (x.size - crit < k)))

def certRevCheck (x : Array UInt8) (crit : Nat) (shift : Shift) : Bool :=
  coreRevCheck x crit &&
  match shift with
  | .large s => (!decide (0 < x.size) || decide (1 ≤ s)) && minPerCheck x s
  | .small p => perCheck x p && minPerCheck x p

theorem coreRevCheck_iff (x : Array UInt8) (crit : Nat) :
    coreRevCheck x crit = true ↔ CoreRev x crit := by
  simp only [coreRevCheck, CoreRev, Bool.and_eq_true, decide_eq_true_eq, coreSweep_iff]

theorem certRevCheck_iff (x : Array UInt8) (crit : Nat) (shift : Shift) :
    certRevCheck x crit shift = true ↔ CertRev x crit shift := by
  cases shift <;>
    simp only [certRevCheck, CertRev, Bool.and_eq_true, coreRevCheck_iff, perCheck_iff,
      minPerCheck_iff, not_or_eq_true_iff, decide_eq_true_eq]

instance (x : Array UInt8) (crit : Nat) (shift : Shift) : Decidable (CertRev x crit shift) :=
  decidable_of_iff _ (certRevCheck_iff x crit shift)

end Memchr.TwoWay
