/-
What all `find_raw` (all `rfind_raw`) of `src/arch/all/memchr.rs` share: everything up to the
aligned `cur`, with the rest of the routine as a continuation (`findWith`, `rfindWith`), and the
tail "word loop, then byte loop" (`skip_then_bytes`, `skip_then_bytes_rev`).

The word loops never look left (right) of `cur`, so their specifications are relative to `cur`.
Value and steps come from one walk: every step of a word loop but the one that finds a hit
moves `cur` on, so the steps are paid for by the bytes passed, plus one.
`USIZE_BYTES` / `LOOP_BYTES` are written where a rewrite must match the model's spelling; they are
`8` / `16` by `rfl`, which is how hypotheses about the one serve for the other.
-/
import MemchrModel.Base.Run
import MemchrModel.Proofs.MemchrGenericLemmas
import MemchrModel.Proofs.SwarBits

namespace Memchr.Swar
open Memchr.Generic

/-- What a forward word loop started at `cur` ensures: it stops at a `cur'` having passed no
needle, in at most one step more than the bytes passed. -/
abbrev Skipped (m : Mem) (p : UInt8 → Bool) (cur end_ : Nat) (c : Ctr) (cur' : Nat) (c' : Ctr) :
    Prop :=
  cur ≤ cur' ∧ cur' ≤ end_ ∧ NoHit m p cur cur' ∧ c'.steps + cur ≤ c.steps + (cur' + 1)

/-- the same for a reverse word loop started at `cur`, which walks down to a `cur'` -/
abbrev SkippedRev (m : Mem) (p : UInt8 → Bool) (start cur : Nat) (c : Ctr) (cur' : Nat)
    (c' : Ctr) : Prop :=
  start ≤ cur' ∧ cur' ≤ cur ∧ NoHit m p cur' cur ∧ c'.steps + cur' ≤ c.steps + (cur + 1)

theorem LastRes.append {m : Mem} {p : UInt8 → Bool} {lo mid hi : Nat} {r : Option Nat}
    (h1 : LastRes m p lo mid r) (h2 : NoHit m p mid hi) (hh : mid ≤ hi) :
    LastRes m p lo hi r :=
  Generic.LastRes.append h1 h2 hh

/-! ### word loads -/

theorem and_align (x : Nat) : x &&& USIZE_ALIGN = x % 8 :=
  Nat.and_two_pow_sub_one_eq_mod x 3

theorem and_align_lt (x : Nat) : x &&& USIZE_ALIGN < 8 :=
  and_align x ▸ Nat.mod_lt x (by decide)

theorem readWordU_ok (m : Mem) (a : Nat) (c : Ctr) (h1 : m.base ≤ a)
    (h2 : a + 8 ≤ m.base + m.bytes.size) :
    readWordU m a c = .ok (wordOfBytes (m.window a 8))
      { c with loads := ⟨m.region, a - m.base, 8, false⟩ :: c.loads } := by
  unfold readWordU
  simp only [M.bind_run, USIZE_BYTES, Mem.loadU_ok m a 8 c h1 h2, M.pure_run]

theorem readWordA_ok (m : Mem) (a : Nat) (c : Ctr) (h1 : m.base ≤ a)
    (h2 : a + 8 ≤ m.base + m.bytes.size) (h3 : a % 8 = 0) :
    readWordA m a c = .ok (wordOfBytes (m.window a 8))
      { c with loads := ⟨m.region, a - m.base, 8, true⟩ :: c.loads } := by
  unfold readWordA
  simp only [M.bind_run, USIZE_BYTES, Mem.loadA_ok m a 8 true c h1 h2 (fun _ => h3), M.pure_run]

theorem noHit_of_not_hasNeedle (ns : Needles) (m : Mem) (a : Nat)
    (h : ¬ hasNeedle ns (wordOfBytes (m.window a 8)) = true) :
    NoHit m ns.confirm a (a + 8) := by
  intro x hx hlt
  cases hp : ns.confirm (m.byteAt x) with
  | false => rfl
  | true => exact absurd (hasNeedle_of_hit ns m a x hx hlt hp) h

/-- the loop assertion `0 == cur.as_usize() % USIZE_BYTES` -/
theorem aligned_beq {cur : Nat} (hal : cur % 8 = 0) : (0 == cur % USIZE_BYTES) = true := by
  rw [USIZE_BYTES, hal]
  rfl

/-! ### the shared part of `find_raw` -/

/-- What `One::find_raw` and `Two/Three::find_raw` share: everything up to the aligned `cur`;
`k len cur` is the rest. -/
def findWith (ns : Needles) (m : Mem) (start end_ : Nat) (k : Nat → Nat → M (Option Nat)) :
    M (Option Nat) :=
  if start ≥ end_ then pure none else do
    let len ← m.distance "find_raw: end.distance(start)" end_ start
    if len < USIZE_BYTES then Generic.fwdByteByByte m ns.confirm start end_ else do
      let chunk ← readWordU m start
      tick
      if hasNeedle ns chunk then Generic.fwdByteByByte m ns.confirm start end_ else do
        let adv ← csub "find_raw: USIZE_BYTES - (start.as_usize() & USIZE_ALIGN)" USIZE_BYTES
          (start &&& USIZE_ALIGN)
        let cur ← m.padd "find_raw: start.add(USIZE_BYTES - (start.as_usize() & USIZE_ALIGN))"
          start adv
        dbgAssert "find_raw: cur > start" (cur > start)
        k len cur

theorem One.findRaw_eq (n1 : UInt8) (m : Mem) (start end_ : Nat) :
    One.findRaw n1 m start end_ = findWith (One.needles n1) m start end_ (fun len cur =>
      if len ≤ One.LOOP_BYTES then Generic.fwdByteByByte m (One.needles n1).confirm cur end_
      else do
        let lim ← m.psub "find_raw: end.sub(One::LOOP_BYTES)" end_ One.LOOP_BYTES
        dbgAssert "find_raw: end.sub(One::LOOP_BYTES) >= start" (lim ≥ start)
        let cur ← One.findLoop n1 m lim cur
        Generic.fwdByteByByte m (One.needles n1).confirm cur end_) := rfl

theorem Multi.findRaw_eq (ns : Needles) (m : Mem) (start end_ : Nat) :
    Multi.findRaw ns m start end_ = findWith ns m start end_ (fun _ cur => do
      let lim ← m.psub "find_raw: end.sub(USIZE_BYTES)" end_ USIZE_BYTES
      dbgAssert "find_raw: end.sub(USIZE_BYTES) >= start" (lim ≥ start)
      let cur ← Multi.findLoop ns m lim cur
      Generic.fwdByteByByte m ns.confirm cur end_) := rfl

/-- The shared part is correct as soon as the rest, started at an aligned `cur` of a window of
at least a word, finds the first hit from `cur` on: `cur` is at most a word right of `start` and
the first word holds no needle, so nothing is lost by starting at `cur`.  The one step the shared
part takes is paid for by `start < cur`; the `+ 1` is the allowance of the word loops. -/
theorem findWith_spec (ns : Needles) (m : Mem) (start end_ : Nat) (k : Nat → Nat → M (Option Nat))
    (c : Ctr) (hb : start < end_ → m.base ≤ start ∧ end_ ≤ m.base + m.bytes.size)
    (hk : ∀ len cur c, start + len = end_ → 8 ≤ len → m.base ≤ start →
      end_ ≤ m.base + m.bytes.size → start ≤ cur → cur ≤ end_ → cur % 8 = 0 →
      Holds (k len cur) c fun r c' =>
        FirstRes m ns.confirm cur end_ r ∧ c'.steps + cur ≤ c.steps + (upto r end_ + 1)) :
    Holds (findWith ns m start end_ k) c (FwdPost 1 m ns.confirm start end_ c) := by
  unfold findWith
  refine Holds.ite (fun hse => ?_) (fun hse => ?_)
  · exact Holds.pure ⟨NoHit.empty m _ hse, fun h => Nat.le_succ_of_le (Nat.add_le_add_left h _)⟩
  · have hse' : start ≤ end_ := Nat.le_of_lt (Nat.lt_of_not_le hse)
    obtain ⟨hs, he⟩ := hb (Nat.lt_of_not_le hse)
    apply Holds.distance_bind' hs hse' he
    intro len hlen
    rw [Nat.add_comm] at hlen
    refine Holds.ite (fun hl => ?_) (fun hl => ?_)
    · exact (fwdByteByByte_spec m _ start end_ c hs hse' he).mono fun _ _ ⟨hres, hc⟩ =>
        ⟨hres, fun _ => Nat.le_succ_of_le hc⟩
    · have hl8 : 8 ≤ len := Nat.le_of_not_lt hl
      have hs8 : start + 8 ≤ end_ := hlen ▸ Nat.add_le_add_left hl8 _
      apply Holds.run_bind (readWordU_ok m start c hs (Nat.le_trans hs8 he))
      apply Holds.tick_bind
      refine Holds.ite (fun hh => ?_) (fun hh => ?_)
      · exact (fwdByteByByte_spec m _ start end_ _ hs hse' he).mono fun _ _ ⟨hres, hc⟩ =>
          ⟨hres, fun _ => Nat.le_trans hc (Nat.le_of_eq (Nat.add_right_comm _ _ _))⟩
      · apply Holds.csub_bind' (Nat.le_of_lt (and_align_lt start))
        intro adv hadv
        obtain ⟨hpos, hadv8, hal⟩ := Generic.align_up (and_align start) (by decide) hadv
        have hab : start + adv ≤ start + 8 := Nat.add_le_add_left hadv8 _
        have hce : start + adv ≤ end_ := Nat.le_trans hab hs8
        have hlt : start < start + adv := Nat.lt_add_of_pos_right hpos
        apply Holds.padd_bind hs (Nat.le_trans hce he)
        apply Holds.dbgAssert_bind' hlt
        apply (hk len (start + adv) _ hlen hl8 hs he (Nat.le_add_right _ _) hce hal).mono
        intro r c' ⟨hres, hc⟩
        exact ⟨hres.prepend ((noHit_of_not_hasNeedle _ m start hh).mono (Nat.le_refl _) hab)
          (Nat.le_add_right _ _), fun _ => budget_trans (step_le rfl hlt) hc⟩

/-- The tail of every `find_raw`: the word loop, which runs up to `lim = end.sub(W)` and skips
hit-free words at one step each, except for the last; then `fwd_byte_by_byte` from where it
stopped. -/
theorem skip_then_bytes {s1 s2 : String} (m : Mem) (p : UInt8 → Bool) (W : Nat) (loop : Nat → M Nat)
    (start cur end_ : Nat) (c : Ctr) (hs : m.base ≤ start) (hsc : start ≤ cur)
    (hW : start + W ≤ end_) (he : end_ ≤ m.base + m.bytes.size)
    (h : ∀ lim, lim + W = end_ → Holds (loop lim) c (Skipped m p cur end_ c)) :
    Holds (do
      let lim ← m.psub s1 end_ W
      dbgAssert s2 (lim ≥ start)
      let cur' ← loop lim
      Generic.fwdByteByByte m p cur' end_) c fun r c' =>
      FirstRes m p cur end_ r ∧ c'.steps + cur ≤ c.steps + (upto r end_ + 1) := by
  apply Holds.psub_bind' (Nat.le_trans (Nat.add_le_add_right hs W) hW) he
  intro lim hlim
  apply Holds.dbgAssert_bind' (le_of_add_le hW hlim (Nat.le_refl W))
  apply Holds.bind (h lim hlim)
  rintro cur' c1 ⟨h1, h2, hno, hst⟩
  apply (fwdByteByByte_spec m p cur' end_ c1 (Nat.le_trans hs (Nat.le_trans hsc h1)) h2 he).mono
  intro r c' ⟨hres, hc⟩
  exact ⟨hres.prepend hno h1, by omega⟩

/-! ### the shared part of `rfind_raw` -/

/-- What `One::rfind_raw` and `Two/Three::rfind_raw` share; `k len cur` is the rest. -/
def rfindWith (ns : Needles) (m : Mem) (start end_ : Nat) (k : Nat → Nat → M (Option Nat)) :
    M (Option Nat) :=
  if start ≥ end_ then pure none else do
    let len ← m.distance "rfind_raw: end.distance(start)" end_ start
    if len < USIZE_BYTES then Generic.revByteByByte m ns.confirm start end_ else do
      let pc ← m.psub "rfind_raw: end.sub(USIZE_BYTES)" end_ USIZE_BYTES
      let chunk ← readWordU m pc
      tick
      if hasNeedle ns chunk then Generic.revByteByByte m ns.confirm start end_ else do
        let cur ← m.psub "rfind_raw: end.sub(end.as_usize() & USIZE_ALIGN)" end_
          (end_ &&& USIZE_ALIGN)
        dbgAssert "rfind_raw: start <= cur && cur <= end" (start ≤ cur && cur ≤ end_)
        k len cur

theorem One.rfindRaw_eq (n1 : UInt8) (m : Mem) (start end_ : Nat) :
    One.rfindRaw n1 m start end_ = rfindWith (One.needles n1) m start end_ (fun len cur =>
      if len ≤ One.LOOP_BYTES then Generic.revByteByByte m (One.needles n1).confirm start cur
      else do
        let _ ← m.padd "rfind_raw: start.add(One::LOOP_BYTES)" start One.LOOP_BYTES
        let cur ← One.rfindLoop n1 m start cur
        Generic.revByteByByte m (One.needles n1).confirm start cur) := rfl

theorem Multi.rfindRaw_eq (ns : Needles) (m : Mem) (start end_ : Nat) :
    Multi.rfindRaw ns m start end_ = rfindWith ns m start end_ (fun _ cur => do
      let _ ← m.padd "rfind_raw: start.add(USIZE_BYTES)" start USIZE_BYTES
      let cur ← Multi.rfindLoop ns m start cur
      Generic.revByteByByte m ns.confirm start cur) := rfl

/-- The mirror image of `findWith_spec`: `cur` is less than a word left of `end_` and the last
word holds no needle, so the rest may search `[start, cur)` only.  Here `cur = end_` is possible,
so the step of the shared part is not paid for by bytes passed: one more step of allowance. -/
theorem rfindWith_spec (ns : Needles) (m : Mem) (start end_ : Nat)
    (k : Nat → Nat → M (Option Nat)) (c : Ctr)
    (hb : start < end_ → m.base ≤ start ∧ end_ ≤ m.base + m.bytes.size)
    (hk : ∀ len cur c, start + len = end_ → 8 ≤ len → m.base ≤ start →
      end_ ≤ m.base + m.bytes.size → start ≤ cur → cur ≤ end_ → cur % 8 = 0 →
      Holds (k len cur) c fun r c' =>
        LastRes m ns.confirm start cur r ∧ c'.steps + downto r start ≤ c.steps + (cur + 1)) :
    Holds (rfindWith ns m start end_ k) c (RevPost 2 m ns.confirm start end_ c) := by
  unfold rfindWith
  refine Holds.ite (fun hse => ?_) (fun hse => ?_)
  · exact Holds.pure
      ⟨NoHit.empty m _ hse, fun h => Nat.add_le_add_left (Nat.le_add_right_of_le h) _⟩
  · have hse' : start ≤ end_ := Nat.le_of_lt (Nat.lt_of_not_le hse)
    obtain ⟨hs, he⟩ := hb (Nat.lt_of_not_le hse)
    apply Holds.distance_bind' hs hse' he
    intro len hlen
    rw [Nat.add_comm] at hlen
    refine Holds.ite (fun hl => ?_) (fun hl => ?_)
    · exact (revByteByByte_spec m _ start end_ c hs hse' he).mono fun _ _ ⟨hres, hc⟩ =>
        ⟨hres, fun _ => by omega⟩
    · have hl8 : 8 ≤ len := Nat.le_of_not_lt hl
      -- `end_ = pc + 8` (the last word) and `end_ = q + end_ % 8` (the aligned `cur`)
      apply Holds.psub_bind' (p := end_) (k := USIZE_BYTES) (by omega) he
      intro pc hpc
      have hspc : start ≤ pc := le_of_add_le (Nat.le_of_eq hlen) hpc hl8
      have hbp : m.base ≤ pc := Nat.le_trans hs hspc
      apply Holds.run_bind (readWordU_ok m pc c hbp (hpc ▸ he))
      apply Holds.tick_bind
      refine Holds.ite (fun hh => ?_) (fun hh => ?_)
      · exact (revByteByByte_spec m _ start end_ _ hs hse' he).mono fun _ _ ⟨hres, hc⟩ =>
          ⟨hres, fun _ => Nat.le_trans hc (step_le rfl (Nat.lt_add_of_pos_right (by decide)))⟩
      · have hlow := and_align_lt end_
        apply Holds.psub_bind' (Nat.le_trans (Nat.add_le_add hbp (Nat.le_of_lt hlow))
          (Nat.le_of_eq hpc)) he
        intro q hq
        have hal := Generic.align_down (and_align end_) hq
        have hq8 : end_ < q + 8 := hq ▸ Nat.add_lt_add_left hlow q
        have hq1 : pc ≤ q := Nat.le_of_lt (Nat.lt_of_add_lt_add_right (hpc ▸ hq8))
        have hq2 : q ≤ end_ := Nat.le.intro hq
        have hsq : start ≤ q := Nat.le_trans hspc hq1
        apply Holds.dbgAssert_and_bind hsq hq2
        apply (hk len q _ hlen hl8 hs he hsq hq2 hal).mono
        intro r c' ⟨hres, hc⟩
        have hno := noHit_of_not_hasNeedle _ m pc hh
        rw [← USIZE_BYTES, hpc] at hno
        exact ⟨LastRes.append hres (hno.mono hq1 (Nat.le_refl _)) hq2,
          fun _ => Nat.le_trans hc (step_le rfl (Nat.succ_lt_succ (Nat.lt_succ_of_le hq2)))⟩

/-- The tail of every `rfind_raw`: the in-allocation check of the loop-invariant
`start.add(W)`; the word loop, which walks down over hit-free words at one step each, except for
the last; then `rev_byte_by_byte` below where it stopped. -/
theorem skip_then_bytes_rev {s1 : String} (m : Mem) (p : UInt8 → Bool) (W : Nat) (loop : M Nat)
    (start cur : Nat) (c : Ctr) (hb : m.base ≤ start) (hW : start + W ≤ m.base + m.bytes.size)
    (he : cur ≤ m.base + m.bytes.size)
    (h : Holds loop c (SkippedRev m p start cur c)) :
    Holds (do
      let _ ← m.padd s1 start W
      let cur' ← loop
      Generic.revByteByByte m p start cur') c fun r c' =>
      LastRes m p start cur r ∧ c'.steps + downto r start ≤ c.steps + (cur + 1) := by
  apply Holds.padd_bind hb hW
  apply Holds.bind h
  rintro cur' c1 ⟨h1, h2, hno, hst⟩
  apply (revByteByByte_spec m p start cur' c1 hb h1 (Nat.le_trans h2 he)).mono
  intro r c' ⟨hres, hc⟩
  exact ⟨LastRes.append hres hno h2, by omega⟩

end Memchr.Swar
