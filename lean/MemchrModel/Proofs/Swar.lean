/-
Master theorems for the portable SWAR byte search `src/arch/all/memchr.rs`
(`One`, `Two`, `Three`: `find_raw`, `rfind_raw`; `One::count_raw`), for every needle, every
memory region (every base address, hence every alignment of `start` and `end`) and every
pair `start`, `end` — including `start >= end` (result `None` / `0`, no memory access, no
precondition) and windows shorter than one word.

`= .ok (spec) c'` means: the run returns normally — no out-of-bounds load, no misaligned
`*const usize` dereference (every `read()` address is a multiple of 8), no pointer arithmetic
leaving the allocation, no overflow, no debug assertion failure — and the value is the naive
specification.

The only bit-level fact used is the no-false-negative direction of `has_zero_byte`
(`hasZeroByte_of_zero_byte` in `Proofs/SwarBits.lean`, kernel-checked, no `bv_decide`).
-/
import MemchrModel.Spec.Byte
import MemchrModel.Model.Swar
import MemchrModel.Proofs.SwarOne
import MemchrModel.Proofs.SwarMulti

namespace Memchr.Swar

open Memchr.Generic

/-- `One::confirm`: `self.s1 == haystack_byte` -/
theorem One.confirm_eq (n1 : UInt8) : (One.needles n1).confirm = fun b => b == n1 := by
  funext b
  simp only [Needles.confirm, Needles.toList, One.needles, List.contains_cons, List.contains_nil,
    Bool.or_false]

/-- `Two::confirm` -/
theorem confirm_two (n1 n2 b : UInt8) :
    (Needles.mk n1 [n2]).confirm b = (b == n1 || b == n2) := by
  simp only [Needles.confirm, Needles.toList, List.contains_cons, List.contains_nil, Bool.or_false]

/-- `Three::confirm` -/
theorem confirm_three (n1 n2 n3 b : UInt8) :
    (Needles.mk n1 [n2, n3]).confirm b = (b == n1 || b == n2 || b == n3) := by
  simp only [Needles.confirm, Needles.toList, List.contains_cons, List.contains_nil, Bool.or_false,
    Bool.or_assoc]

/-- The precondition of every theorem below is satisfiable by a non-trivial input: a 20-byte
region at the odd base address 3 and the window `[4, 22)` inside it. -/
example : ∃ (m : Mem) (start end_ : Nat), start < end_ ∧
    (start < end_ → m.base ≤ start ∧ end_ ≤ m.base + m.bytes.size) :=
  ⟨⟨0, 3, #[1, 2, 3, 4, 5, 6, 7, 8, 9, 10, 11, 12, 13, 14, 15, 16, 17, 18, 19, 20]⟩, 4, 22,
    by decide, by decide⟩

/-! ### `One` -/

theorem One.findRaw_correct (n1 : UInt8) (m : Mem) (start end_ : Nat) (c : Ctr)
    (hb : start < end_ → m.base ≤ start ∧ end_ ≤ m.base + m.bytes.size) :
    ∃ c', One.findRaw n1 m start end_ c =
      .ok ((Spec.firstIdx (One.needles n1).confirm (m.window start (end_ - start))).map
        (start + ·)) c' :=
  FirstRes.run_spec (One.findRaw_spec n1 m start end_ c hb)

theorem One.rfindRaw_correct (n1 : UInt8) (m : Mem) (start end_ : Nat) (c : Ctr)
    (hb : start < end_ → m.base ≤ start ∧ end_ ≤ m.base + m.bytes.size) :
    ∃ c', One.rfindRaw n1 m start end_ c =
      .ok ((Spec.lastIdx (One.needles n1).confirm (m.window start (end_ - start))).map
        (start + ·)) c' :=
  LastRes.run_spec (One.rfindRaw_spec n1 m start end_ c hb)

/-! ### `Two` and `Three` (`ns = ⟨s1, [s2]⟩` resp. `⟨s1, [s2, s3]⟩`; any number of needles) -/

theorem Multi.findRaw_correct (ns : Needles) (m : Mem) (start end_ : Nat) (c : Ctr)
    (hb : start < end_ → m.base ≤ start ∧ end_ ≤ m.base + m.bytes.size) :
    ∃ c', Multi.findRaw ns m start end_ c =
      .ok ((Spec.firstIdx ns.confirm (m.window start (end_ - start))).map (start + ·)) c' :=
  FirstRes.run_spec (Multi.findRaw_spec ns m start end_ c hb)

theorem Multi.rfindRaw_correct (ns : Needles) (m : Mem) (start end_ : Nat) (c : Ctr)
    (hb : start < end_ → m.base ≤ start ∧ end_ ≤ m.base + m.bytes.size) :
    ∃ c', Multi.rfindRaw ns m start end_ c =
      .ok ((Spec.lastIdx ns.confirm (m.window start (end_ - start))).map (start + ·)) c' :=
  LastRes.run_spec (Multi.rfindRaw_spec ns m start end_ c hb)

end Memchr.Swar

section AxiomCheck
open Memchr.Swar
#print axioms hasZeroByte_of_zero_byte
#print axioms One.findRaw_correct
#print axioms One.rfindRaw_correct
#print axioms One.countRaw_correct
#print axioms Multi.findRaw_correct
#print axioms Multi.rfindRaw_correct
end AxiomCheck
