/-
The finders of the public substring API (`Model/Memmem.lean`) and the one-shot functions: C03 / C04
for `Finder::find`, `FinderRev::rfind`, `memmem::find`, `memmem::rfind`, C10 at the API level, and
C13 for all of them: every routine has one lemma `X_run` that states its value and its steps
(`Memchr.Cost.x` where `Props/C13.lean` cites it).  Everything is `Proofs/Searcher.lean` read
through `Finder.GoodFor`: the finder's own copy of the needle holds the construction bytes and its
searcher is the one built for them.
-/
import MemchrModel.Proofs.Searcher
import MemchrModel.Model.Memmem

namespace Memchr.Memmem

/-! ### a finder for the bytes of `n0` -/

/-- a needle holding the bytes of `n0` -/
def CowBytes.Holds (n0 : Slice) (c : CowBytes) : Prop := c.bytes.Valid ∧ c.bytes.toList = n0.toList

theorem CowBytes.Holds.len_eq {n0 : Slice} {c : CowBytes} (hc : c.Holds n0) :
    c.bytes.len = n0.len := (Slice.same_bytes hc.2).1

theorem CowBytes.Holds.toArray_eq {n0 : Slice} {c : CowBytes} (hc : c.Holds n0) (hn0 : n0.Valid) :
    c.bytes.toArray = n0.toArray := Slice.toArray_congr hc.1 hn0 hc.2

/-- a forward finder for the bytes of `n0` -/
def Finder.GoodFor (n0 : Slice) (f : Finder) : Prop :=
  f.needle.Holds n0 ∧ f.searcher.GoodFor n0

/-- `FinderBuilder::build_forward_with_ranker`, any configuration, prefilter setting and ranker.
The needle is borrowed: the function does not take the heap, so it cannot allocate. -/
theorem FinderBuilder.build_run (cfg : Api.Cfg) (b : FinderBuilder) (rank : UInt8 → UInt8)
    (n0 : Slice) (hn0 : n0.Valid) (c : Ctr) :
    ∃ f c', b.buildForwardWithRanker cfg rank n0 c = .ok f c' ∧ f.GoodFor n0 ∧
      PackedOk n0 f.searcher ∧ f.needle.own = .borrowed ∧ f.needle.bytes = n0 ∧
      c'.steps ≤ c.steps + 7 * n0.len + 257 := by
  obtain ⟨s, c', h, hg, hp, hs⟩ := Searcher.new_run cfg b.prefilter rank n0 hn0 c
  exact ⟨⟨CowBytes.new n0, s⟩, c', bind_ok h, ⟨⟨hn0, rfl⟩, hg⟩, hp, rfl, rfl, hs⟩

/-- `Searcher.find_spec` for the finder's own copy of the needle, from any prefilter state:
`Finder::find` starts from a fresh one, `FindIter::next` from the iterator's. -/
theorem Finder.search_run (cfg : Api.Cfg) {n0 : Slice} {f : Finder} (hg : f.GoodFor n0)
    (hn0 : n0.Valid) (hay : Slice) (hh : hay.Valid) (st : PrefilterState) (c : Ctr) :
    ∃ st' c', f.searcher.find cfg st hay f.needleSlice c =
        .ok (Spec.leftmost hay.toArray n0.toArray, st') c' ∧
      (PackedOk n0 f.searcher → c'.steps ≤ c.steps +
        (1031 * Fallback.scanned (Spec.leftmost hay.toArray n0.toArray) hay.len + 17 * n0.len +
          2000)) := by
  obtain ⟨hc, hs⟩ := hg
  obtain ⟨st', c', h, hk⟩ := Searcher.find_spec cfg (hs.congr hc.2) hay hh hc.1 st c
  rw [hc.toArray_eq hn0] at h hk
  rw [hc.len_eq] at hk
  exact ⟨st', c', h, fun hp => hk (hp.congr hc.2)⟩

/-- **C03 / C16 for `Finder::find`**: the result is the leftmost occurrence of the needle's
bytes; it depends on nothing else (a fresh `PrefilterState` per call).  The steps are those of
`Searcher::find` (C13). -/
theorem Finder.find_run (cfg : Api.Cfg) {n0 : Slice} {f : Finder} (hg : f.GoodFor n0)
    (hn0 : n0.Valid) (hay : Slice) (hh : hay.Valid) (c : Ctr) :
    ∃ c', f.find cfg hay c = .ok (Spec.leftmost hay.toArray n0.toArray) c' ∧
      (PackedOk n0 f.searcher → c'.steps ≤ c.steps +
        (1031 * Fallback.scanned (Spec.leftmost hay.toArray n0.toArray) hay.len + 17 * n0.len +
          2000)) :=
  let ⟨_, c', h, hk⟩ := Finder.search_run cfg hg hn0 hay hh PrefilterState.new c
  ⟨c', bind_ok h, hk⟩

/-! ### `FinderRev` -/

/-- a reverse finder for the bytes of `n0` -/
def FinderRev.GoodFor (n0 : Slice) (f : FinderRev) : Prop :=
  f.needle.Holds n0 ∧ f.searcher.GoodFor n0

theorem FinderRev.new_run (n0 : Slice) (hn0 : n0.Valid) (c : Ctr) :
    ∃ f c', FinderRev.new n0 c = .ok f c' ∧ f.GoodFor n0 ∧ f.needle.own = .borrowed ∧
      c'.steps ≤ c.steps + 7 * n0.len + 2 := by
  obtain ⟨s, c', h, hg, hs⟩ := SearcherRev.new_run n0 hn0 c
  exact ⟨⟨CowBytes.new n0, s⟩, c', bind_ok h, ⟨⟨hn0, rfl⟩, hg⟩, rfl, hs⟩

/-- **C04 / C16 for `FinderRev::rfind`**: the rightmost occurrence of the needle's bytes, in the
steps of `SearcherRev::rfind` (C13). -/
theorem FinderRev.rfind_run (cfg : Api.Cfg) {n0 : Slice} {f : FinderRev} (hg : f.GoodFor n0)
    (hn0 : n0.Valid) (hay : Slice) (hh : hay.Valid) (c : Ctr) :
    ∃ c', f.rfind cfg hay c = .ok (Spec.rightmost hay.toArray n0.toArray) c' ∧
      c'.steps ≤ c.steps +
        (3 * Api.scannedRev (Spec.rightmost hay.toArray n0.toArray) hay.len + 17 * n0.len +
          192) := by
  obtain ⟨hc, hs⟩ := hg
  obtain ⟨c', h, hk⟩ := SearcherRev.rfind_run cfg (hs.congr hc.2) hay hh hc.1 c
  rw [hc.toArray_eq hn0] at h hk
  rw [hc.len_eq] at hk
  exact ⟨c', h, hk⟩

/-! ### C03: `Finder::new(needle).find(haystack)`, `memmem::find` -/

/-- construction (at most `7 * needle.len + d` steps) and one search -/
theorem build_search_le {s s1 s' sc nl a b d t : Nat} (h1 : s1 ≤ s + 7 * nl + d)
    (h : s' ≤ s1 + (a * sc + 17 * nl + b)) (ht : d + b ≤ t) :
    s' ≤ s + a * sc + 24 * nl + t := by
  omega

/-- the Rabin-Karp construction (`nl - 1` steps) and search (`w + nl` steps, bounded by `rk_short`
with `q = 16`) of the one-shot functions below their thresholds lie within either build-and-search
budget (`a`: its term in the bytes scanned) -/
theorem rk_build_search_le {s s' nl w a t : Nat} (hk : s' ≤ s + (nl - 1) + w + nl)
    (hw : w + nl ≤ (16 + 1) * nl + 12 * 16) (ht : 194 ≤ t) : s' ≤ s + a + 24 * nl + t := by
  omega

/-- **C03 + C13**: `build_forward_with_ranker(ranker, needle)` then `find(haystack)`, any builder
(prefilter setting) and ranker, construction included: the leftmost occurrence in at most
`1031 * scanned + 24 * needle.len() + 2257` steps. -/
theorem _root_.Memchr.Cost.builder_find (cfg : Api.Cfg) (b : FinderBuilder) (rank : UInt8 → UInt8)
    (needle hay : Slice) (hn : needle.Valid) (hh : hay.Valid) (c : Ctr) :
    ∃ c', (b.buildForwardWithRanker cfg rank needle >>= fun f => f.find cfg hay) c =
        .ok (Spec.leftmost hay.toArray needle.toArray) c' ∧
      c'.steps ≤ c.steps +
        1031 * Fallback.scanned (Spec.leftmost hay.toArray needle.toArray) hay.len +
        24 * needle.len + 2257 := by
  obtain ⟨f, c1, hb, hg, hp, _, _, h1⟩ := FinderBuilder.build_run cfg b rank needle hn c
  obtain ⟨c', e, hk⟩ := Finder.find_run cfg hg hn hay hh c1
  exact ⟨c', by rw [bind_ok hb, e], build_search_le h1 (hk hp) (by decide)⟩

/-- **C03** for a finder built by `FinderBuilder` with any prefilter setting and ranker, in any
configuration. -/
theorem C03.builder_find_all (cfg : Api.Cfg) (b : FinderBuilder) (rank : UInt8 → UInt8)
    (needle hay : Slice) (hn : needle.Valid) (hh : hay.Valid) (c : Ctr) :
    ∃ c', (b.buildForwardWithRanker cfg rank needle >>= fun f => f.find cfg hay) c =
      .ok (Spec.leftmost hay.toArray needle.toArray) c' :=
  let ⟨c', e, _⟩ := Cost.builder_find cfg b rank needle hay hn hh c
  ⟨c', e⟩

/-- **C03** `Finder::new(needle).find(haystack)` -/
theorem C03.finder_find (cfg : Api.Cfg) (needle hay : Slice) (hn : needle.Valid) (hh : hay.Valid)
    (c : Ctr) :
    ∃ c', (Finder.new cfg needle >>= fun f => f.find cfg hay) c =
      .ok (Spec.leftmost hay.toArray needle.toArray) c' :=
  C03.builder_find_all cfg FinderBuilder.new Pair.defaultRank needle hay hn hh c

/-- **`Cost.oneshot_find`** (C03.oneshot + C13).  `memmem::find(haystack, needle)`, every
configuration and branch: haystacks shorter than 64 bytes go to Rabin-Karp (`rk_short` bounds its
steps), longer ones to `Finder::new(needle).find(haystack)`; the leftmost occurrence in at most
`1031 * scanned + 24 * needle.len() + 2257` steps. -/
theorem _root_.Memchr.Cost.oneshot_find (cfg : Api.Cfg) (needle hay : Slice) (hn : needle.Valid)
    (hh : hay.Valid) (c : Ctr) :
    ∃ c', Memmem.find cfg hay needle c = .ok (Spec.leftmost hay.toArray needle.toArray) c' ∧
      c'.steps ≤ c.steps +
        1031 * Fallback.scanned (Spec.leftmost hay.toArray needle.toArray) hay.len +
        24 * needle.len + 2257 := by
  unfold Memmem.find
  by_cases hs : hay.len < Generated.oneshotFwdThreshold
  · rw [if_pos hs, bind_ok (RabinKarp.Finder.new_run needle c)]
    obtain ⟨c', e, hk⟩ :=
      RabinKarp.find_correct_of_spec (RabinKarp.Finder.spec needle.toList) hay needle _ hh hn rfl
    exact ⟨c', e, rk_build_search_le hk (rk_short hs (by decide)) (by decide)⟩
  · rw [if_neg hs]
    exact Cost.builder_find cfg FinderBuilder.new Pair.defaultRank needle hay hn hh c

/-- **C03.oneshot** `memmem::find(haystack, needle)`, every branch. -/
theorem C03.oneshot_all (cfg : Api.Cfg) (needle hay : Slice) (hn : needle.Valid) (hh : hay.Valid)
    (c : Ctr) :
    ∃ c', Memmem.find cfg hay needle c = .ok (Spec.leftmost hay.toArray needle.toArray) c' :=
  let ⟨c', e, _⟩ := Cost.oneshot_find cfg needle hay hn hh c
  ⟨c', e⟩

set_option linter.unusedVariables false in
/-- **C03.oneshot** on the branches that do not reach Two-Way: short haystacks, needles of at
most one byte, and needles of 2..=32 bytes when the configuration has a vector finder.  `hbranch`
is not needed: a special case of `C03.oneshot_all`. -/
theorem C03.oneshot (cfg : Api.Cfg) (needle hay : Slice) (hn : needle.Valid) (hh : hay.Valid)
    (hbranch : hay.len < Generated.oneshotFwdThreshold ∨ needle.len ≤ 1 ∨
      ((vecKind cfg).isSome = true ∧ doPackedSearch needle = true)) (c : Ctr) :
    ∃ c', Memmem.find cfg hay needle c = .ok (Spec.leftmost hay.toArray needle.toArray) c' :=
  C03.oneshot_all cfg needle hay hn hh c

/-! ### C10 at the API level -/

/-- **C10 (+ C09)**: `FinderBuilder` finders for the same needle built with any two
configurations, prefilter settings and rankers agree on every haystack (and the adaptive
prefilter state never shows: each result is `Spec.leftmost`). -/
theorem C10.builder_indep_all (cfg cfg' : Api.Cfg) (b b' : FinderBuilder)
    (rank rank' : UInt8 → UInt8) (needle hay : Slice) (hn : needle.Valid) (hh : hay.Valid)
    (c c' : Ctr) :
    ∃ v c1 c1', (b.buildForwardWithRanker cfg rank needle >>= fun f => f.find cfg hay) c =
        .ok v c1 ∧
      (b'.buildForwardWithRanker cfg' rank' needle >>= fun f => f.find cfg' hay) c' =
        .ok v c1' :=
  let ⟨c1, h⟩ := C03.builder_find_all cfg b rank needle hay hn hh c
  let ⟨c1', h'⟩ := C03.builder_find_all cfg' b' rank' needle hay hn hh c'
  ⟨_, c1, c1', h, h'⟩

/-! ### C04: `FinderRev::new(needle).rfind(haystack)`, `memmem::rfind` -/

/-- **C04 + C13**: `FinderRev::new(needle).rfind(haystack)`, construction included: the rightmost
occurrence in at most `3 * scannedRev + 24 * needle.len() + 194` steps. -/
theorem _root_.Memchr.Cost.finderRev_rfind (cfg : Api.Cfg) (needle hay : Slice)
    (hn : needle.Valid) (hh : hay.Valid) (c : Ctr) :
    ∃ c', (FinderRev.new needle >>= fun f => f.rfind cfg hay) c =
        .ok (Spec.rightmost hay.toArray needle.toArray) c' ∧
      c'.steps ≤ c.steps +
        3 * Api.scannedRev (Spec.rightmost hay.toArray needle.toArray) hay.len +
        24 * needle.len + 194 := by
  obtain ⟨f, c1, hb, hg, _, h1⟩ := FinderRev.new_run needle hn c
  obtain ⟨c', e, hk⟩ := FinderRev.rfind_run cfg hg hn hay hh c1
  exact ⟨c', by rw [bind_ok hb, e], build_search_le h1 hk (by decide)⟩

/-- **C04** `FinderRev::new(needle).rfind(haystack)` -/
theorem C04.finder_rfind_all (cfg : Api.Cfg) (needle hay : Slice) (hn : needle.Valid)
    (hh : hay.Valid) (c : Ctr) :
    ∃ c', (FinderRev.new needle >>= fun f => f.rfind cfg hay) c =
      .ok (Spec.rightmost hay.toArray needle.toArray) c' :=
  let ⟨c', e, _⟩ := Cost.finderRev_rfind cfg needle hay hn hh c
  ⟨c', e⟩

/-- **`Cost.oneshot_rfind`** (C04.oneshot + C13).  `memmem::rfind(haystack, needle)`, every
branch: the rightmost occurrence in at most `3 * scannedRev + 24 * needle.len() + 194` steps. -/
theorem _root_.Memchr.Cost.oneshot_rfind (cfg : Api.Cfg) (needle hay : Slice) (hn : needle.Valid)
    (hh : hay.Valid) (c : Ctr) :
    ∃ c', Memmem.rfind cfg hay needle c = .ok (Spec.rightmost hay.toArray needle.toArray) c' ∧
      c'.steps ≤ c.steps +
        3 * Api.scannedRev (Spec.rightmost hay.toArray needle.toArray) hay.len +
        24 * needle.len + 194 := by
  unfold Memmem.rfind
  by_cases hs : hay.len < Generated.oneshotRevThreshold
  · rw [if_pos hs, bind_ok (RabinKarp.FinderRev.new_run needle c)]
    obtain ⟨c', e, hk⟩ :=
      RabinKarp.rfind_correct_of_spec ⟨RabinKarp.Finder.spec needle.toList.reverse⟩ hay needle _ hh
        hn rfl
    exact ⟨c', e, rk_build_search_le hk (rk_short hs (by decide)) (by decide)⟩
  · rw [if_neg hs]
    exact Cost.finderRev_rfind cfg needle hay hn hh c

/-- **C04.oneshot** `memmem::rfind`, every branch -/
theorem C04.oneshot_all (cfg : Api.Cfg) (needle hay : Slice) (hn : needle.Valid) (hh : hay.Valid)
    (c : Ctr) :
    ∃ c', Memmem.rfind cfg hay needle c = .ok (Spec.rightmost hay.toArray needle.toArray) c' :=
  let ⟨c', e, _⟩ := Cost.oneshot_rfind cfg needle hay hn hh c
  ⟨c', e⟩

set_option linter.unusedVariables false in
/-- **C04.oneshot** `memmem::rfind` on the branches that do not reach Two-Way: haystacks shorter
than 64 bytes or needles of at most one byte.  `hbranch` is not needed: a special case of
`C04.oneshot_all`. -/
theorem C04.oneshot (cfg : Api.Cfg) (needle hay : Slice) (hn : needle.Valid) (hh : hay.Valid)
    (hbranch : hay.len < Generated.oneshotRevThreshold ∨ needle.len ≤ 1) (c : Ctr) :
    ∃ c', Memmem.rfind cfg hay needle c = .ok (Spec.rightmost hay.toArray needle.toArray) c' :=
  C04.oneshot_all cfg needle hay hn hh c

end Memchr.Memmem

section AxiomCheck
open Memchr.Memmem
#print axioms Finder.find_run
#print axioms C03.builder_find_all
#print axioms Memchr.Cost.oneshot_find
#print axioms C03.oneshot_all
#print axioms C03.oneshot
#print axioms C04.finder_rfind_all
#print axioms Memchr.Cost.oneshot_rfind
#print axioms C04.oneshot_all
#print axioms C04.oneshot
#print axioms C10.builder_indep_all
end AxiomCheck
