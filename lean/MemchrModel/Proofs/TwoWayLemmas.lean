/-
Two-Way: what both search directions use (the match predicates `MatchR` / `Occ` on slices, the
needle as an `Array` and as the function `Slice.getD`), and for the forward direction the three
combinatorial facts (a)-(c) of DESIGN section 8 that justify the ways the search loops advance, the
comparison loops with their step counts, and the prefilter block of the search loops
(`prefilterStep_spec`: what it does to the window, and its cost at a price `G` per byte the
strategy consumed, `StratPaid`).
-/
import MemchrModel.Proofs.TwoWayDefs
import MemchrModel.Proofs.SliceLemmas
import MemchrModel.Proofs.Prefilter
import MemchrModel.Model.Pair
import MemchrModel.Base.Run

namespace Memchr.TwoWay

open Memchr

theorem bind_fault {α β : Type} {x : M α} {f : α → M β} {c : Ctr} {e : Fault}
    (h : x c = .fault e) : (x >>= f) c = .fault e :=
  Memchr.bind_fault h

/-- `1 << (b % 64)` -/
def bsMask (b : UInt8) : UInt64 := (1 : UInt64) <<< (b.toNat % 64).toUInt64

/-- pure form of `ApproximateByteSet::contains` -/
def ApproximateByteSet.has (s : ApproximateByteSet) (b : UInt8) : Bool := s.bits &&& bsMask b != 0

theorem shl1_ok (site : String) {k : Nat} (h : k < 64) :
    shl1 site k = pure ((1 : UInt64) <<< k.toUInt64) := by
  simp [shl1, h]

theorem shl1_bind {β : Type} {site : String} {k : Nat} {f : UInt64 → M β} {c : Ctr}
    {Q : β → Ctr → Prop} (hk : k < 64) (h : Holds (f ((1 : UInt64) <<< k.toUInt64)) c Q) :
    Holds (shl1 site k >>= f) c Q := by
  rw [shl1_ok site hk]
  exact h

theorem contains_run (s : ApproximateByteSet) (b : UInt8) (c : Ctr) :
    s.contains b c = .ok (s.has b) c := by
  have h : b.toNat % Generated.byteSetModulusContains < 64 := Nat.mod_lt _ (by decide)
  simp only [ApproximateByteSet.contains, shl1_ok _ h, pure_bind']
  rfl

theorem contains_bind {β : Type} {s : ApproximateByteSet} {b : UInt8} {f : Bool → M β}
    {c : Ctr} {Q : β → Ctr → Prop} (h : Holds (f (s.has b)) c Q) :
    Holds (s.contains b >>= f) c Q :=
  Holds.run_bind (contains_run s b c) h

/-- needle bytes `[lo, hi)` equal the haystack bytes at `pos + [lo, hi)` -/
def MatchR (haystack needle : Slice) (pos lo hi : Nat) : Prop :=
  ∀ t, lo ≤ t → t < hi → needle.getD t = haystack.getD (pos + t)

/-- `needle` occurs in `haystack` at offset `q`: the window fits and the whole needle matches;
`Spec.OccAt` of the two byte arrays (`occ_iff`) -/
def Occ (haystack needle : Slice) (q : Nat) : Prop :=
  q + needle.len ≤ haystack.len ∧ MatchR haystack needle q 0 needle.len

theorem occ_iff {h n : Slice} (hh : h.Valid) (hn : n.Valid) (q : Nat) :
    Spec.OccAt h.toArray n.toArray q ↔ Occ h n q :=
  (Slice.occAt_iff_getD hh hn q).trans <| and_congr_right fun _ => forall_congr' fun t =>
    ⟨fun e _ ht => (e ht).symm, fun e ht => (e (Nat.zero_le t) ht).symm⟩

theorem MatchR.empty (h n : Slice) (pos lo : Nat) : MatchR h n pos lo lo :=
  fun t h1 h2 => by omega

theorem MatchR.single {h n : Slice} {pos t : Nat} (e : n.getD t = h.getD (pos + t)) :
    MatchR h n pos t (t + 1) := fun u h1 h2 => by
  obtain rfl := Nat.le_antisymm (Nat.le_of_lt_succ h2) h1
  exact e

theorem MatchR.mono {h n : Slice} {pos lo hi lo' hi' : Nat} (hm : MatchR h n pos lo hi)
    (h1 : lo ≤ lo') (h2 : hi' ≤ hi) : MatchR h n pos lo' hi' :=
  fun t ht1 ht2 => hm t (by omega) (by omega)

theorem MatchR.append {h n : Slice} {pos lo mid hi : Nat} (h1 : MatchR h n pos lo mid)
    (h2 : MatchR h n pos mid hi) : MatchR h n pos lo hi := fun t ht1 ht2 => by
  by_cases htm : t < mid
  · exact h1 t ht1 htm
  · exact h2 t (by omega) ht2

/-- the needle aligned at `q` and at `q + k`: where both alignments agree with the haystack, the
needle repeats at distance `k` -/
theorem MatchR.overlap {h n : Slice} {q k lo hi lo' hi' t : Nat} (h1 : MatchR h n q lo hi)
    (h2 : MatchR h n (q + k) lo' hi') (ht : lo' ≤ t) (ht' : t < hi') (hk : lo ≤ t + k)
    (hk' : t + k < hi) : n.getD t = n.getD (t + k) := by
  rw [h2 t ht ht', h1 (t + k) hk hk', Nat.add_assoc, Nat.add_comm k t]

/-- A word is an `Array` with `x[t]?` in `Per` / `LR` and the function `n.getD` with the length
`n.len` in the loops and in `Words`; inside the word the two readings of "byte `t` equals byte `u`"
are the same. -/
theorem getElem?_eq_iff_getD {n : Slice} (hn : n.Valid) {t u : Nat} (ht : t < n.len)
    (hu : u < n.len) : n.toArray[t]? = n.toArray[u]? ↔ n.getD t = n.getD u := by
  rw [Slice.toArray_getElem? hn t ht, Slice.toArray_getElem? hn u hu, Option.some.injEq]

theorem per_iff_getD {n : Slice} (hn : n.Valid) {k : Nat} :
    Per n.toArray k ↔ 1 ≤ k ∧ ∀ t, t + k < n.len → n.getD t = n.getD (t + k) := by
  unfold Per
  rw [Slice.toArray_size hn]
  exact and_congr_right fun _ => forall_congr' fun t => imp_congr_right fun ht =>
    getElem?_eq_iff_getD hn (Nat.lt_of_le_of_lt (Nat.le_add_right t k) ht) ht

theorem lr_iff_getD {n : Slice} (hn : n.Valid) {c k : Nat} :
    LR n.toArray c k ↔
      ∀ t, c ≤ t + k → t < c → t + k < n.len → n.getD t = n.getD (t + k) := by
  unfold LR
  rw [Slice.toArray_size hn]
  exact forall_congr' fun t => imp_congr_right fun _ => imp_congr_right fun _ =>
    imp_congr_right fun ht =>
      getElem?_eq_iff_getD hn (Nat.lt_of_le_of_lt (Nat.le_add_right t k) ht) ht

theorem per_getD {n : Slice} (hn : n.Valid) {k : Nat} (hp : Per n.toArray k) (t : Nat)
    (ht : t + k < n.len) : n.getD t = n.getD (t + k) :=
  ((per_iff_getD hn).mp hp).2 t ht

/-- an occurrence at `pos + k` whose left part overlaps a matched right part `[crit, i)` at
`pos` makes `k` a local repetition at `crit` -/
theorem lr_of_occ {h n : Slice} (hn : n.Valid) {crit pos i k : Nat}
    (hm : MatchR h n pos crit i) (hk : crit + k ≤ i ∨ n.len ≤ i) (hocc : Occ h n (pos + k)) :
    LR n.toArray crit k :=
  (lr_iff_getD hn).mpr fun t h1 h2 h3 =>
    hm.overlap hocc.2 (Nat.zero_le t) (by omega) h1 (by omega)

/-- (a) after the right part `x[crit..i)` matched at `pos` and `x[i]` mismatched, no occurrence
starts in `[pos, pos + i - crit]` -/
theorem no_occ_right_mismatch {h n : Slice} (hn : n.Valid) {crit pos i k : Nat}
    (hcore : Core n.toArray crit) (hm : MatchR h n pos crit i) (hi : i < n.len)
    (hne : n.getD i ≠ h.getD (pos + i)) (hk : k ≤ i - crit) : ¬ Occ h n (pos + k) := by
  intro hocc
  by_cases hk0 : k = 0
  · subst hk0
    exact hne (hocc.2 i (Nat.zero_le i) hi)
  · have hki : k ≤ i := Nat.le_trans hk (Nat.sub_le _ _)
    have hlr := lr_of_occ hn hm (Or.inl (by omega)) hocc
    have hper := (hcore k (Nat.pos_of_ne_zero hk0) hlr).1
    -- `x[i] = x[i - k]` by the period, and `x[i - k]` is the haystack byte under `x[i]`
    obtain ⟨d, rfl⟩ : ∃ d, i = d + k := ⟨i - k, (Nat.sub_add_cancel hki).symm⟩
    have e2 := hocc.2 d (Nat.zero_le d) (Nat.lt_of_le_of_lt (Nat.le_add_right _ _) hi)
    rw [Nat.add_assoc, Nat.add_comm k d] at e2
    exact hne (by rw [← per_getD hn hper d hi, e2])

/-- (b) after a full right match at `pos`, no occurrence starts in `(pos, pos + s)` when `s`
is at most the smallest period -/
theorem no_occ_after_right_match {h n : Slice} (hn : n.Valid) {crit pos s k : Nat}
    (hcore : Core n.toArray crit) (hm : MatchR h n pos crit n.len)
    (hmin : ∀ k, Per n.toArray k → s ≤ k) (hk1 : 1 ≤ k) (hks : k < s) :
    ¬ Occ h n (pos + k) := by
  intro hocc
  have hlr := lr_of_occ hn hm (Or.inr (Nat.le_refl _)) hocc
  have := hmin k (hcore k hk1 hlr).1
  omega

/-- (c) the period memory: after a full right match at `pos`, the first `|x| - p` bytes match
at `pos + p` -/
theorem memory_after_period {h n : Slice} {crit pos p : Nat}
    (hper : ∀ t, t + p < n.len → n.getD t = n.getD (t + p)) (hcp : crit ≤ p)
    (hm : MatchR h n pos crit n.len) : MatchR h n (pos + p) 0 (n.len - p) := by
  intro t _ ht
  rw [hper t (by omega), hm (t + p) (by omega) (by omega)]
  congr 1; omega

/-- The state of `find_small_imp` after the prefilter block: a prefilter that ran has moved the
window by `delta` and forgets the period memory (`shift := 0`), otherwise nothing changed.  `i0`
is where the comparison of the right part starts; what lies between `crit` and `i0` is known
from the memory. -/
theorem small_after_prefilter {h n : Slice} {crit pos delta shift shift1 i0 : Nat} {ran : Bool}
    (hsh : (if ran = true then 0 else shift) = shift1)
    (hi0 : (if ran = true then crit else max crit shift) = i0)
    (hran : ran = false → delta = 0) (hcrit : crit ≤ n.len) (hshift : shift ≤ n.len)
    (hmem : MatchR h n pos 0 shift) :
    shift1 ≤ shift ∧ crit ≤ i0 ∧ i0 ≤ n.len ∧
      MatchR h n (pos + delta) 0 shift1 ∧
      ∀ i, MatchR h n (pos + delta) i0 i → MatchR h n (pos + delta) crit i := by
  cases ran with
  | true =>
    simp only [if_true] at hsh hi0
    subst hsh hi0
    exact ⟨Nat.zero_le _, Nat.le_refl _, hcrit,
      MatchR.empty _ _ _ _, fun _ hm => hm⟩
  | false =>
    simp only [Bool.false_eq_true, if_false] at hsh hi0
    subst hsh hi0
    rw [hran rfl]
    refine ⟨Nat.le_refl _, Nat.le_max_left _ _, Nat.max_le.mpr ⟨hcrit, hshift⟩, hmem,
      fun i hm t ht1 ht2 => ?_⟩
    by_cases hts : t < shift
    · exact hmem t (Nat.zero_le _) hts
    · exact hm t (Nat.max_le.mpr ⟨ht1, Nat.le_of_not_lt hts⟩) ht2

/-- byte-set skip: if the haystack byte under the needle's last position is not in the set,
no occurrence starts in `[pos, pos + |x|)` -/
theorem no_occ_byteset {h n : Slice} {bs : ApproximateByteSet} {pos k : Nat}
    (hbs : ∀ t, t < n.len → bs.has (n.getD t) = true)
    (hnc : bs.has (h.getD (pos + (n.len - 1))) = false) (hk : k < n.len) :
    ¬ Occ h n (pos + k) := by
  intro hocc
  have e := hocc.2 (n.len - 1 - k) (Nat.zero_le _) (by omega)
  rw [show pos + k + (n.len - 1 - k) = pos + (n.len - 1) by omega] at e
  rw [← e, hbs _ (by omega)] at hnc
  cases hnc

theorem last_fits {q n H : Nat} (hn : 0 < n) (hfit : q + n ≤ H) : q + (n - 1) < H :=
  Nat.lt_of_lt_of_le (Nat.add_lt_add_left (Nat.sub_lt hn Nat.one_pos) q) hfit

theorem advance_fits {q n H adv : Nat} (hfit : q + n ≤ H) (ha : adv ≤ n) : q + adv ≤ H :=
  Nat.le_trans (Nat.add_le_add_left ha q) hfit

/-- the advance `i - crit + 1` after a mismatch at `i` in the right part is at most the needle
length -/
theorem mismatch_advance_le {i crit n : Nat} (hi : i < n) : i - crit + 1 ≤ n :=
  Nat.succ_le_of_lt (Nat.lt_of_le_of_lt (Nat.sub_le i crit) hi)

/-- `k` comparisons before a mismatch, after which the window moves by `k + 1` -/
theorem le_two_mul_succ (k : Nat) : k ≤ 2 * (k + 1) := by omega

theorem count_zero (a i : Nat) : a = a + (i - i) := by
  rw [Nat.sub_self, Nat.add_zero]

/-- the step count of a comparison loop that counts up (`fwdCmp`, `revFwdCmp`), one more
iteration -/
theorem count_up {a b i i' : Nat} (h : b = a + 1 + (i' - (i + 1))) (hi : i + 1 ≤ i') :
    b = a + (i' - i) := by omega

/-- the step count of a comparison loop that counts down (`smallBackCmp`, `revCmp`), one more
iteration -/
theorem count_down {a b j j' : Nat} (h : b = a + 1 + (j - 1 - j')) (hj : j' ≤ j - 1)
    (h1 : 1 ≤ j) : b = a + (j - j') := by omega

theorem fwdCmp_spec (fn : String) (n h : Slice) (pos i : Nat) (c : Ctr)
    (hb : pos + n.len ≤ h.len) :
    ∃ i' c', Finder.fwdCmp fn n h pos i c = .ok i' c' ∧ i ≤ i' ∧ (i ≤ n.len → i' ≤ n.len) ∧
      MatchR h n pos i i' ∧ (i' < n.len → n.getD i' ≠ h.getD (pos + i')) ∧
      c'.steps = c.steps + (i' - i) ∧ c'.loads = c.loads := by
  fun_induction Finder.fwdCmp fn n h pos i generalizing c with
  | case1 i hi ih =>
    apply Holds.get_bind hi
    apply Holds.get_bind (Nat.lt_of_lt_of_le (Nat.add_lt_add_left hi pos) hb)
    refine Holds.ite (fun hab => ?_) (fun hab => ?_)
    · apply Holds.tick_bind
      refine Holds.mono (ih _) ?_
      rintro i' c' ⟨h1, h2, h3, h4, h5, h6⟩
      exact ⟨Nat.le_of_succ_le h1, fun _ => h2 hi,
        (MatchR.single (eq_of_beq hab)).append h3, h4, count_up h5 h1, h6⟩
    · exact Holds.pure ⟨Nat.le_refl _, fun h => h, MatchR.empty _ _ _ _,
        fun _ => mt beq_iff_eq.mpr hab, count_zero _ _, rfl⟩
  | case2 i hi =>
    exact Holds.pure ⟨Nat.le_refl _, fun h => h, MatchR.empty _ _ _ _, fun h => absurd h hi,
      count_zero _ _, rfl⟩

theorem smallBackCmp_spec (n h : Slice) (pos shift j : Nat) (c : Ctr)
    (hb : pos + n.len ≤ h.len) (hj : j < n.len) :
    ∃ j' c', Finder.smallBackCmp n h pos shift j c = .ok j' c' ∧ j' ≤ j ∧
      MatchR h n pos (j' + 1) (j + 1) ∧
      (j' ≤ shift ∨ n.getD j' ≠ h.getD (pos + j')) ∧ (shift ≤ j → shift ≤ j') ∧
      c'.steps = c.steps + (j - j') ∧ c'.loads = c.loads := by
  fun_induction Finder.smallBackCmp n h pos shift j generalizing c with
  | case1 j hjs ih =>
    have hj1 : 1 ≤ j := Nat.lt_of_le_of_lt (Nat.zero_le _) hjs
    apply Holds.get_bind hj
    apply Holds.get_bind (Nat.lt_of_lt_of_le (Nat.add_lt_add_left hj pos) hb)
    refine Holds.ite (fun hab => ?_) (fun hab => ?_)
    · apply Holds.tick_bind
      apply Holds.csub_bind hj1
      refine Holds.mono (ih _ (Nat.lt_of_le_of_lt (Nat.sub_le _ _) hj)) ?_
      rintro j' c' ⟨h1, h2, h3, h4, h5, h6⟩
      rw [Nat.sub_add_cancel hj1] at h2
      exact ⟨Nat.le_trans h1 (Nat.sub_le _ _), h2.append (MatchR.single (eq_of_beq hab)), h3,
        fun _ => h4 (Nat.le_sub_one_of_lt hjs), count_down h5 h1 hj1, h6⟩
    · exact Holds.pure ⟨Nat.le_refl _, MatchR.empty _ _ _ _, Or.inr (mt beq_iff_eq.mpr hab),
        fun h => h, count_zero _ _, rfl⟩
  | case2 j hjs =>
    exact Holds.pure ⟨Nat.le_refl _, MatchR.empty _ _ _ _, Or.inl (Nat.le_of_not_lt hjs),
      fun h => h, count_zero _ _, rfl⟩

theorem largeBackCmp_spec (n h : Slice) (pos j : Nat) (c : Ctr)
    (hb : pos + n.len ≤ h.len) (hj : j ≤ n.len) :
    ∃ r c', Finder.largeBackCmp n h pos j c = .ok r c' ∧
      (r = true → MatchR h n pos 0 j) ∧
      (r = false → ∃ m, m < j ∧ n.getD m ≠ h.getD (pos + m)) ∧
      c'.steps ≤ c.steps + j ∧ c'.loads = c.loads := by
  induction j generalizing c with
  | zero => exact Holds.pure ⟨fun _ => MatchR.empty _ _ _ _, nofun, Nat.le_refl _, rfl⟩
  | succ j ih =>
    rw [Finder.largeBackCmp]
    apply Holds.tick_bind
    apply Holds.get_bind (Nat.lt_of_succ_le hj)
    apply Holds.get_bind (Nat.lt_of_lt_of_le (Nat.add_lt_add_left hj pos) hb)
    refine Holds.ite (fun hab => ?_) (fun hab => ?_)
    · exact Holds.pure ⟨nofun, fun _ => ⟨j, Nat.lt_succ_self j, bne_iff_ne.mp hab⟩,
        Nat.add_le_add_left (Nat.succ_le_succ (Nat.zero_le _)) _, rfl⟩
    · refine Holds.mono (ih _ (Nat.le_of_succ_le hj)) ?_
      rintro r c' ⟨h1, h2, h3, h4⟩
      refine ⟨fun hr => (h1 hr).append (MatchR.single
          (bne_eq_false_iff_eq.mp (Bool.eq_false_iff.mpr hab))), fun hr => ?_,
        Nat.le_trans h3 (Nat.le_of_eq (Nat.add_right_comm _ _ _)), h4⟩
      obtain ⟨m, hm1, hm2⟩ := h2 hr
      exact ⟨m, Nat.lt_succ_of_lt hm1, hm2⟩

theorem pre_isEffective_ok (p : Pre) (c : Ctr) :
    ∃ b st, p.isEffective c = .ok (b, { p with state := st }) c := by
  obtain ⟨b, s', e⟩ := PrefilterState.isEffective_total p.state c
  exact ⟨b, s', by simp only [Pre.isEffective, bind_ok e]; rfl⟩

/-- the strategy of an optional prefilter is `strat` -/
def PreOK (strat : Slice → M (Option Nat)) (pre : Option Pre) : Prop :=
  ∀ p, pre = some p → p.strat = strat

/-- `&haystack[a..]`: the value `Slice.drop` returns (`Slice.drop_ok`); its validity and bytes are
`Slice.drop_valid`, `Slice.drop_getD` -/
def tailFrom (s : Slice) (a : Nat) : Slice := ⟨s.mem, s.off + a, s.len - a⟩

theorem occ_tailFrom {h n : Slice} {a : Nat} (ha : a ≤ h.len) (q : Nat) :
    Occ (tailFrom h a) n q ↔ Occ h n (a + q) := by
  unfold Occ MatchR
  simp only [tailFrom, Slice.drop_getD, Nat.add_assoc]
  constructor
  · rintro ⟨h1, h2⟩; exact ⟨by omega, h2⟩
  · rintro ⟨h1, h2⟩; exact ⟨by omega, h2⟩

/-- What the loops need from the prefilter strategy, relative to an abstract loop invariant
`Inv pos` ("the search may resume at `pos`") and an abstract `Done` ("answering `None` is
right"): run on `&haystack[a..]` it returns normally; `None` justifies `Done`; `Some(c)`
justifies advancing by `c`. -/
def StratOK (haystack : Slice) (strat : Slice → M (Option Nat)) (Inv : Nat → Prop)
    (Done : Prop) : Prop :=
  ∀ a, a ≤ haystack.len → ∀ c, ∃ r c', strat (tailFrom haystack a) c = .ok r c' ∧
    (r = none → Inv a → Done) ∧ (∀ cnd, r = some cnd → Inv a → Inv (a + cnd))

/-- The prefilter is paid for at `G` steps per byte it consumed (`consumed` = candidate + 1, or
the whole tail when there is none), the tick of `Pre::find` included, and a candidate lies inside
the tail: said of the runs that return, on the non-empty tails of the haystack. -/
def StratPaid (haystack : Slice) (strat : Slice → M (Option Nat)) (G : Nat) : Prop :=
  ∀ a, a < haystack.len → ∀ c r c', strat (tailFrom haystack a) c = .ok r c' →
    c'.steps + 1 ≤ c.steps + G * Fallback.scanned r (haystack.len - a) ∧
      ∀ x, r = some x → x < haystack.len - a

theorem prefilterStep_spec (fn : String) {needle haystack : Slice}
    {strat : Slice → M (Option Nat)} {Inv : Nat → Prop} {Done : Prop}
    (pre : Option Pre) (pos : Nat) (c : Ctr) (hn : 0 < needle.len)
    (hpos : pos + needle.len ≤ haystack.len) (hpre : PreOK strat pre)
    (hstrat : pre ≠ none → StratOK haystack strat Inv Done)
    (hdone : ∀ q, Inv q → haystack.len < q + needle.len → Done) (hinv : Inv pos) :
    Holds (Finder.prefilterStep fn needle haystack pre pos) c (fun x c' =>
      PreOK strat x.1 ∧ (pre = none → x.1 = none ∧ x.2 = some (0, false) ∧ c' = c) ∧
      (x.2 = none → Done ∧ ∀ G, (pre ≠ none → StratPaid haystack strat G) →
        c'.steps ≤ c.steps + G * (haystack.len - pos)) ∧
      (∀ delta ran, x.2 = some (delta, ran) → Inv (pos + delta) ∧
        pos + delta + needle.len ≤ haystack.len ∧ (ran = false → delta = 0) ∧
        ∀ G, (pre ≠ none → StratPaid haystack strat G) →
          c'.steps ≤ c.steps + G * (delta + 1))) := by
  -- the prefilter did not run: the window stays, at no cost
  have hstay : ∀ delta ran, some ((0 : Nat), false) = some (delta, ran) →
      Inv (pos + delta) ∧ pos + delta + needle.len ≤ haystack.len ∧
        (ran = false → delta = 0) ∧
        ∀ G, (pre ≠ none → StratPaid haystack strat G) → c.steps ≤ c.steps + G * (delta + 1) := by
    rintro delta ran ⟨⟩
    exact ⟨hinv, hpos, fun _ => rfl, fun _ _ => Nat.le_add_right _ _⟩
  cases pre with
  | none => exact Holds.pure ⟨hpre, fun _ => ⟨rfl, rfl, rfl⟩, nofun, hstay⟩
  | some p =>
    have hs : p.strat = strat := hpre p rfl
    have hok : ∀ st', PreOK strat (some { p with state := st' }) := by
      rintro st' p' ⟨⟩
      exact hs
    have hle : pos ≤ haystack.len := Nat.le_trans (Nat.le_add_right _ _) hpos
    obtain ⟨b, st, e⟩ := pre_isEffective_ok p c
    apply Holds.run_bind e
    refine Holds.ite (fun _ => ?_) (fun _ => Holds.pure ⟨hok st, nofun, nofun, hstay⟩)
    apply Holds.drop_bind hle
    obtain ⟨r, c1, er, hr1, hr2⟩ := hstrat nofun pos hle c
    have hpaid := fun G (hq : some p ≠ none → StratPaid haystack strat G) =>
      hq nofun pos (Nat.lt_of_lt_of_le (Nat.lt_add_of_pos_right hn) hpos) c r c1 er
    have ef : Pre.find { p with state := st } (tailFrom haystack pos) c =
        .ok (r, { p with state := st.update (r.getD (tailFrom haystack pos).len) })
          { c1 with steps := c1.steps + 1 } := by
      simp only [Pre.find, hs, bind_ok er, M.bind_run, tick_run, M.pure_run]
    apply Holds.run_bind ef
    cases r with
    | none =>
      exact Holds.pure ⟨hok _, nofun, fun _ => ⟨hr1 rfl hinv, fun G hq => (hpaid G hq).1⟩, nofun⟩
    | some cnd =>
      refine Holds.ite
        (fun hfit => Holds.pure ⟨hok _, nofun, fun _ => ⟨?_, fun G hq => ?_⟩, nofun⟩)
        (fun hfit => Holds.pure ⟨hok _, nofun, nofun, ?_⟩)
      · exact hdone _ (hr2 cnd rfl hinv) hfit
      · -- the candidate's window does not fit: what the strategy consumed is in the tail
        exact Nat.le_trans (hpaid G hq).1
          (Nat.add_le_add_left (Nat.mul_le_mul_left G ((hpaid G hq).2 cnd rfl)) _)
      · rintro delta ran ⟨⟩
        exact ⟨hr2 cnd rfl hinv, Nat.le_of_not_lt hfit, nofun, fun G hq => (hpaid G hq).1⟩

end Memchr.TwoWay
