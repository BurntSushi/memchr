/-
Two-Way (`src/arch/all/twoway.rs`), forward direction: the master theorems (DESIGN section 8).

Two instances of `find_spec` (`Proofs/TwoWayLoops.lean`), for an arbitrary `TwoWay` value.  With the
invariant "no occurrence starts before `pos`", which the certificate `CertFwd` about the needle
maintains, the answer is the leftmost occurrence (`find_of_cert`, T4; any sound prefilter in any
prefilter state).  With the trivial invariant a reported match is an occurrence and the search does
not fault (`find_sound`).  The values `Finder::new` computes satisfy the certificate
(`finder_new_full`: T1-T3), so both hold of `Finder::new(needle)` followed by a search without any
hypothesis about the needle: `find_correct`, `find_correct_nopre` (with the linear step bound),
`new_find_sound`, and `Bridge3.twoway_find_any_prefilter` for a prefilter that may be unsound (the
form `Props/C05`, `Props/C14` cite).
-/
import MemchrModel.Proofs.TwoWayLoops
import MemchrModel.Proofs.TwoWayNew

namespace Memchr.TwoWay

open Memchr

/-- A prefilter strategy is *sound* for `needle` on `haystack`: run on any tail
`&haystack[a..]` it returns normally, `None` only if the needle does not occur in the tail, and
a candidate `Some(c)` is at or before the first occurrence in the tail. -/
def PreSound (needle haystack : Slice) (strat : Slice → M (Option Nat)) : Prop :=
  ∀ a, a ≤ haystack.len → ∀ c, ∃ r c', strat (tailFrom haystack a) c = .ok r c' ∧
    (r = none → ∀ q, ¬ Spec.OccAt (tailFrom haystack a).toArray needle.toArray q) ∧
    (∀ cnd, r = some cnd →
      ∀ q, Spec.OccAt (tailFrom haystack a).toArray needle.toArray q → cnd ≤ q)

/-- "no occurrence starts before `q`" -/
def NoOccBefore (haystack needle : Slice) (q : Nat) : Prop := ∀ j, j < q → ¬ Occ haystack needle j

theorem stratOK_of_preSound {needle haystack : Slice} {strat : Slice → M (Option Nat)}
    (hnv : needle.Valid) (hhv : haystack.Valid) (hs : PreSound needle haystack strat) :
    StratOK haystack strat (NoOccBefore haystack needle) (∀ j, ¬ Occ haystack needle j) := by
  intro a ha c
  obtain ⟨r, c', e, h1, h2⟩ := hs a ha c
  have htail : ∀ j, ¬ j < a → Occ haystack needle j →
      Spec.OccAt (tailFrom haystack a).toArray needle.toArray (j - a) := fun j hja hocc =>
    (occ_iff (Slice.drop_valid hhv ha) hnv _).mpr
      ((occ_tailFrom ha _).mpr ((Nat.add_sub_cancel' (Nat.le_of_not_lt hja)).symm ▸ hocc))
  refine ⟨r, c', e, ?_, ?_⟩
  · intro hr hinv j hocc
    by_cases hja : j < a
    · exact hinv j hja hocc
    · exact h1 hr (j - a) (htail j hja hocc)
  · intro cnd hr hinv j hj hocc
    by_cases hja : j < a
    · exact hinv j hja hocc
    · have := h2 cnd hr (j - a) (htail j hja hocc)
      omega

/-- how the loop advances: no occurrence at the `adv` offsets skipped -/
theorem NoOccBefore.step {haystack needle : Slice} {q adv : Nat}
    (hinv : NoOccBefore haystack needle q) (hno : ∀ k, k < adv → ¬ Occ haystack needle (q + k)) :
    NoOccBefore haystack needle (q + adv) := by
  intro j hj hocc
  by_cases hjq : j < q
  · exact hinv j hjq hocc
  · refine hno (j - q) (by omega) ?_
    rwa [Nat.add_sub_cancel' (Nat.le_of_not_lt hjq)]

theorem loopInv_of_cert {tw : TwoWay} {needle haystack : Slice} {step : Nat}
    (hnv : needle.Valid)
    (hcore : Core needle.toArray tw.criticalPos)
    (hmin : ∀ k, Per needle.toArray k → step ≤ k)
    (hbs : ∀ t, t < needle.len → tw.byteset.has (needle.getD t) = true) :
    LoopInv tw needle haystack step (NoOccBefore haystack needle)
      (∀ j, ¬ Occ haystack needle j) where
  done := by
    intro q hinv hq j hocc
    by_cases hjq : j < q
    · exact hinv j hjq hocc
    · have := hocc.1; omega
  bs := fun q hinv _ hnc => hinv.step (fun k hk => no_occ_byteset hbs hnc hk)
  right := fun q i hinv _ _ hi hm hne => hinv.step (fun k hk =>
    no_occ_right_mismatch hnv hcore hm hi hne (Nat.le_of_lt_succ hk))
  left := fun q m hinv _ hm hmn hne => hinv.step (fun k hk hocc => by
    cases k with
    | zero => exact hne (hocc.2 m (Nat.zero_le m) hmn)
    | succ k => exact no_occ_after_right_match hnv hcore hm hmin (Nat.succ_pos k) hk hocc)

theorem leftmost_of_post {haystack needle : Slice} (hhv : haystack.Valid) (hnv : needle.Valid)
    {r : Option Nat}
    (h1 : ∀ q, r = some q → NoOccBefore haystack needle q ∧ Occ haystack needle q)
    (h2 : r = none → ∀ j, ¬ Occ haystack needle j) :
    r = Spec.leftmost haystack.toArray needle.toArray := by
  refine IsLeast.eq_leftmost ?_ fun j => Slice.occAt_lt hhv hnv
  cases r with
  | none => exact fun j _ _ hj => h2 rfl j ((occ_iff hhv hnv j).mp hj)
  | some q =>
    have hocc := (occ_iff hhv hnv q).mpr (h1 q rfl).2
    exact ⟨Nat.zero_le q, Slice.occAt_lt hhv hnv hocc, hocc,
      fun j _ hj hj' => (h1 q rfl).1 j hj ((occ_iff hhv hnv j).mp hj')⟩

/-- `find_spec` under the certificate: the invariant is "no occurrence starts before `pos`", so the
answer is the leftmost occurrence; what `find_spec` says of the prefilter and of the steps stays. -/
theorem find_of_cert (tw : TwoWay) (needle haystack : Slice) (pre : Option Pre) (c : Ctr)
    (strat : Slice → M (Option Nat))
    (hnv : needle.Valid) (hhv : haystack.Valid)
    (hcert : CertFwd needle.toArray tw.criticalPos tw.shift)
    (hbs : ∀ b, b ∈ needle.toArray → tw.byteset.has b = true)
    (hpre : PreOK strat pre) (hsound : pre ≠ none → PreSound needle haystack strat) :
    Holds (Finder.findWithPrefilter tw pre haystack needle) c fun x c' =>
      x.1 = Spec.leftmost haystack.toArray needle.toArray ∧ PreOK strat x.2 ∧
      (pre = none → x.2 = none) ∧
      ((∀ s, tw.shift = .large s → needle.len ≤ 2 * s) →
        FindBound tw needle haystack strat pre c.steps x c') :=
  Holds.mono (find_spec tw needle haystack pre c strat hnv
    (NoOccBefore haystack needle) (∀ j, ¬ Occ haystack needle j)
    (fun hn => hcert.soundPre (Slice.toArray_size hnv ▸ hn))
    (fun _ hstep => loopInv_of_cert hnv hcert.1 (fun _ => hcert.le_per hstep)
      (fun t ht => hbs _ ((Slice.mem_toArray_iff hnv).mpr ⟨t, ht, rfl⟩)))
    hpre (fun hne => stratOK_of_preSound hnv hhv (hsound hne))
    (fun j hj => absurd hj (Nat.not_lt_zero j)))
    fun _ _ h => ⟨leftmost_of_post hhv hnv h.hit h.miss, h.preOK, h.preNone, h.steps⟩

/-- **T4 (forward).**  For every `TwoWay` value whose critical position and shift satisfy the
certificate for the needle and whose byte set has no false negatives on the needle's bytes,
every optional prefilter whose strategy is sound, in *every* prefilter state:
`find_with_prefilter` returns the leftmost occurrence (and never faults).  The prefilter
afterwards has the same strategy (and is `None` if it was `None`).

(`PrefilterState::is_effective` is total - `saturating_mul` -, so there is no side condition on
the state.  With the overflow-checked `*` of `isEffectiveBeforeFix` the statement would need a
bound on `skips`: `PrefilterState.f1_before_fix`, `Proofs/Prefilter.lean`.) -/
theorem find_eq_of_cert (tw : TwoWay) (needle haystack : Slice) (pre : Option Pre) (c : Ctr)
    (strat : Slice → M (Option Nat))
    (hnv : needle.Valid) (hhv : haystack.Valid)
    (hcert : CertFwd needle.toArray tw.criticalPos tw.shift)
    (hbs : ∀ b, b ∈ needle.toArray → tw.byteset.has b = true)
    (hpre : PreOK strat pre) (hsound : pre ≠ none → PreSound needle haystack strat) :
    ∃ pre' c', Finder.findWithPrefilter tw pre haystack needle c =
        .ok (Spec.leftmost haystack.toArray needle.toArray, pre') c' ∧
      PreOK strat pre' ∧ (pre = none → pre' = none) ∧
      (pre = none → (∀ s, tw.shift = .large s → needle.len ≤ 2 * s) →
        c'.steps ≤ c.steps + 3 * haystack.len + 2 * needle.len + 1) := by
  obtain ⟨⟨_, pre'⟩, c', e, rfl, hok, hnone, hsteps⟩ :=
    find_of_cert tw needle haystack pre c strat hnv hhv hcert hbs hpre hsound
  exact ⟨pre', c', e, hok, hnone, fun hp hh => (hsteps hh).nopre hp⟩

/-- `Finder::find` (no prefilter) under the certificate -/
theorem find_eq_of_cert_nopre (tw : TwoWay) (needle haystack : Slice) (c : Ctr)
    (hnv : needle.Valid) (hhv : haystack.Valid)
    (hcert : CertFwd needle.toArray tw.criticalPos tw.shift)
    (hbs : ∀ b, b ∈ needle.toArray → tw.byteset.has b = true) :
    ∃ c', Finder.find tw haystack needle c =
        .ok (Spec.leftmost haystack.toArray needle.toArray) c' ∧
      ((∀ s, tw.shift = .large s → needle.len ≤ 2 * s) →
        c'.steps ≤ c.steps + 3 * haystack.len + 2 * needle.len + 1) := by
  obtain ⟨pre', c', e, _, _, h⟩ := find_eq_of_cert tw needle haystack none c (fun _ => pure none)
    hnv hhv hcert hbs nofun (fun h => absurd rfl h)
  exact ⟨c', bind_ok e, h rfl⟩

/-- **Soundness without a certificate.**  For an arbitrary critical position and shift subject
only to `SoundPre`, an arbitrary byte set and an arbitrary (possibly unsound) prefilter whose
strategy merely returns normally: the search never faults and a reported `Some(q)` is an
occurrence of the needle. -/
theorem find_sound (tw : TwoWay) (needle haystack : Slice) (pre : Option Pre) (c : Ctr)
    (strat : Slice → M (Option Nat))
    (hnv : needle.Valid) (hhv : haystack.Valid)
    (hsp : 0 < needle.len → SoundPre needle.toArray tw.criticalPos tw.shift)
    (hpre : PreOK strat pre)
    (htotal : pre ≠ none → ∀ a, a ≤ haystack.len → ∀ c, ∃ r c',
      strat (tailFrom haystack a) c = .ok r c') :
    ∃ r pre' c', Finder.findWithPrefilter tw pre haystack needle c = .ok (r, pre') c' ∧
      (∀ q, r = some q → Spec.OccAt haystack.toArray needle.toArray q) ∧
      (pre = none → (∀ s, tw.shift = .large s → needle.len ≤ 2 * s) →
        c'.steps ≤ c.steps + 3 * haystack.len + 2 * needle.len + 1) := by
  have hstrat : pre ≠ none → StratOK haystack strat (fun _ => True) True := by
    intro hne a ha c
    obtain ⟨r, c', e⟩ := htotal hne a ha c
    exact ⟨r, c', e, fun _ _ => trivial, fun _ _ _ => trivial⟩
  obtain ⟨⟨r, pre'⟩, c', e, h⟩ := find_spec tw needle haystack pre c strat hnv
    (fun _ => True) True hsp (fun _ _ => loopInv_trivial _ _ _ _) hpre hstrat trivial
  exact ⟨r, pre', c', e, fun q hq => (occ_iff hhv hnv q).mpr (h.hit q hq).2,
    fun hp hh => (h.steps hh).nopre hp⟩

/-- **Certificate for every needle** (T1 + T2 + T3).  `Finder::new(needle)` returns normally
and the `critical_pos` and `shift` it stores satisfy `CertFwd`. -/
theorem cert_fwd (needle : Slice) (hnv : needle.Valid) (c : Ctr) :
    ∃ tw c', Finder.new needle c = .ok tw c' ∧
      CertFwd needle.toArray tw.criticalPos tw.shift :=
  let ⟨tw, c', e, _, _, hcert, _⟩ := finder_new_full needle c hnv
  ⟨tw, c', e, hcert⟩

/-- **`Finder::new(needle).find_with_prefilter(pre, haystack, needle)` is the leftmost
occurrence**, unconditionally: for every (valid) needle and haystack, every optional prefilter
whose strategy is sound (`PreSound`: run on any tail of the haystack it returns normally and
never skips an occurrence), in every prefilter state.  No fault of any kind.  The prefilter
afterwards has the same strategy (and is `None` if it was `None`); without a prefilter the whole
call takes at most `3 * haystack.len + 8 * needle.len + 3` steps. -/
theorem find_correct (needle haystack : Slice) (pre : Option Pre) (c : Ctr)
    (strat : Slice → M (Option Nat))
    (hnv : needle.Valid) (hhv : haystack.Valid)
    (hpre : PreOK strat pre) (hsound : pre ≠ none → PreSound needle haystack strat) :
    ∃ pre' c', (Finder.new needle >>= fun tw =>
          Finder.findWithPrefilter tw pre haystack needle) c =
        .ok (Spec.leftmost haystack.toArray needle.toArray, pre') c' ∧
      PreOK strat pre' ∧ (pre = none → pre' = none) ∧
      (pre = none → c'.steps ≤ c.steps + 3 * haystack.len + 8 * needle.len + 3) := by
  obtain ⟨tw, c1, e1, hs1, hbs, hcert, hlarge, _⟩ := finder_new_full needle c hnv
  obtain ⟨pre', c2, e2, h1, h2, h3⟩ := find_eq_of_cert tw needle haystack pre c1 strat hnv hhv
    hcert hbs hpre hsound
  refine ⟨pre', c2, ?_, h1, h2, fun hp => ?_⟩
  · rw [bind_ok e1]; exact e2
  · have := h3 hp (fun s hs => (hlarge s hs).1)
    omega

/-- **`Finder::new(needle).find(haystack, needle)` is the leftmost occurrence**, for every
needle and haystack, within `3 * haystack.len + 8 * needle.len + 3` steps. -/
theorem find_correct_nopre (needle haystack : Slice) (c : Ctr) (hnv : needle.Valid)
    (hhv : haystack.Valid) :
    ∃ c', (Finder.new needle >>= fun tw => Finder.find tw haystack needle) c =
        .ok (Spec.leftmost haystack.toArray needle.toArray) c' ∧
      c'.steps ≤ c.steps + 3 * haystack.len + 8 * needle.len + 3 := by
  obtain ⟨tw, c1, e1, hs1, hbs, hcert, hlarge, _⟩ := finder_new_full needle c hnv
  obtain ⟨c2, e2, h2⟩ := find_eq_of_cert_nopre tw needle haystack c1 hnv hhv hcert hbs
  refine ⟨c2, ?_, ?_⟩
  · rw [bind_ok e1]; exact e2
  · have := h2 (fun s hs => (hlarge s hs).1)
    omega

/-- **`Finder::new(needle).find(haystack, needle)` without any hypothesis** (beyond the slices
being slices): never faults, a reported match is an occurrence, and the whole call takes at most
`3 * haystack.len + 8 * needle.len + 3` steps. -/
theorem new_find_sound (needle haystack : Slice) (c : Ctr) (hnv : needle.Valid)
    (hhv : haystack.Valid) :
    ∃ r c', (Finder.new needle >>= fun tw => Finder.find tw haystack needle) c = .ok r c' ∧
      (∀ q, r = some q → Spec.OccAt haystack.toArray needle.toArray q) ∧
      c'.steps ≤ c.steps + 3 * haystack.len + 8 * needle.len + 3 := by
  obtain ⟨c', e, hs⟩ := find_correct_nopre needle haystack c hnv hhv
  exact ⟨_, c', e, fun q hq => ((Spec.leftmost_eq_some_iff _ _ _).mp hq).1, hs⟩

/-- a strategy that is sound on *every* valid haystack (the form `Memmem.PreSound` has: it
returns normally, and if the needle occurs at `q` the result is `some a` with `a <= q`) is
sound on the tails of a given haystack -/
theorem preSound_of_global {needle haystack : Slice} {strat : Slice → M (Option Nat)}
    (hhv : haystack.Valid)
    (h : ∀ hay : Slice, hay.Valid → ∀ c, ∃ r c', strat hay c = .ok r c' ∧
      ∀ q, Spec.OccAt hay.toArray needle.toArray q → ∃ a, r = some a ∧ a ≤ q) :
    PreSound needle haystack strat := by
  intro a ha c
  obtain ⟨r, c', e, hr⟩ := h (tailFrom haystack a) (Slice.drop_valid hhv ha) c
  refine ⟨r, c', e, ?_, ?_⟩
  · intro hnone q hocc
    obtain ⟨a', ha', _⟩ := hr q hocc
    rw [hnone] at ha'; cases ha'
  · intro cnd hsome q hocc
    obtain ⟨a', ha', hle⟩ := hr q hocc
    rw [hsome] at ha'; cases ha'
    exact hle

/-- the hypotheses of `find_eq_of_cert` hold for the needle "abaab" (region 1, base 4096) with
the values `Finder::new` computes for it (`crit = 2`, `Small { period: 3 }`; evaluated with the
executable model, `#eval`, and identical to the Rust) and a byte set without false negatives -/
example :
    let needle := Slice.ofMem ⟨1, 4096, "abaab".toUTF8.data⟩
    let haystack := Slice.ofMem ⟨0, 8192, "abaaabaabab".toUTF8.data⟩
    let tw : TwoWay := { byteset := ⟨25769803776⟩, criticalPos := 2, shift := .small 3 }
    needle.Valid ∧ haystack.Valid ∧ CertFwd needle.toArray tw.criticalPos tw.shift ∧
      (∀ b, b ∈ needle.toArray → tw.byteset.has b = true) :=
  ⟨Slice.ofMem_valid _, Slice.ofMem_valid _, by decide, by decide⟩

/-- a sound prefilter strategy exists for every needle/haystack: "every position is a
candidate" (`Some(0)`) -/
example (needle haystack : Slice) : PreSound needle haystack (fun _ => pure (some 0)) :=
  fun a _ c => ⟨some 0, c, rfl, nofun, fun cnd h q _ => by cases h; exact Nat.zero_le _⟩

/-- `SoundPre` (hypothesis of `find_sound`) for "abcde" with the `Large` values of
`Finder::new` -/
example : SoundPre "abcde".toUTF8.data 4 (.large 4) := by
  simp only [SoundPre]; decide

/-- valid needle and haystack, no prefilter -/
example :
    let needle := Slice.ofMem ⟨1, 4096, "abaab".toUTF8.data⟩
    let haystack := Slice.ofMem ⟨0, 8192, "abaaabaabab".toUTF8.data⟩
    needle.Valid ∧ haystack.Valid ∧ PreOK (fun _ => pure none) none :=
  ⟨Slice.ofMem_valid _, Slice.ofMem_valid _, nofun⟩

/-- a sound prefilter strategy exists for every needle and haystack ("every position is a
candidate") -/
example (needle haystack : Slice) : PreSound needle haystack (fun _ => pure (some 0)) :=
  fun a _ c => ⟨some 0, c, rfl, nofun, fun cnd h q _ => by cases h; exact Nat.zero_le _⟩

#print axioms find_eq_of_cert
#print axioms find_eq_of_cert_nopre
#print axioms find_sound
#print axioms finder_new_spec
#print axioms new_find_sound
#print axioms certFwdCheck_iff
#print axioms cert_fwd
#print axioms find_correct
#print axioms find_correct_nopre

end Memchr.TwoWay

namespace Memchr.Bridge3

open Memchr

/-- `twoway::Finder::new(needle)` then `find_with_prefilter` with ANY optional prefilter whose
strategy merely returns normally on the tails of the haystack (it may be unsound: skip matches,
report garbage): the run never faults and a reported `Some(q)` is an occurrence of the needle -/
theorem twoway_find_any_prefilter (needle haystack : Slice) (pre : Option Pre) (c : Ctr)
    (strat : Slice → M (Option Nat)) (hnv : needle.Valid) (hhv : haystack.Valid)
    (hpre : TwoWay.PreOK strat pre)
    (htotal : pre ≠ none → ∀ a, a ≤ haystack.len → ∀ c, ∃ r c',
      strat (TwoWay.tailFrom haystack a) c = .ok r c') :
    ∃ r pre' c', (TwoWay.Finder.new needle >>= fun tw =>
        TwoWay.Finder.findWithPrefilter tw pre haystack needle) c = .ok (r, pre') c' ∧
      ∀ q, r = some q → Spec.OccAt haystack.toArray needle.toArray q := by
  obtain ⟨tw, c1, e1, _, _, _, hsp, _⟩ := TwoWay.finder_new_spec needle c hnv
  obtain ⟨r, pre', c2, e2, h1, _⟩ :=
    TwoWay.find_sound tw needle haystack pre c1 strat hnv hhv hsp hpre htotal
  exact ⟨r, pre', c2, by rw [bind_ok e1]; exact e2, h1⟩

end Memchr.Bridge3

#print axioms Memchr.Bridge3.twoway_find_any_prefilter
