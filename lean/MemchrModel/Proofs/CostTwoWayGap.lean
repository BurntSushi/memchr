/-
C13: Two-Way forward WITH a prefilter, in any `PrefilterState`.

* `StratCost`: what is assumed about the cost of the prefilter strategy (at most
  `4 * consumed + 1020` steps and a candidate inside the haystack: what `Prefilter.find_run` proves
  for every strategy `Searcher::new` builds), and its translation into the price per byte
  (`StratPaid`) in which the step bounds of the loops are stated.  Neither soundness of the
  strategy nor the adaptive `is_effective` test matters for the step count.
* `gapOK`, the combinatorial part: `GapOK` holds for every needle in the `Small` case of
  `Finder::new`, for every haystack.
* `find_run_of_cert`: value and steps, without and with a prefilter, of one search with the finder
  `Finder::new` built; the step bounds themselves are clauses of `largeLoop_spec` /
  `smallLoop_spec` / `find_spec` (`Proofs/TwoWayLoops.lean`), instantiated here.

`gapOK`: `x = u v` with `|u| = crit`; `p` is the smallest period of `x`, `crit <= p`,
`crit + p <= |x|`, `2 * crit < |x|`, and `crit` is a critical position in the strong form `Core`.

1. `vper_min`: `p` is also the smallest period of `v` (a smaller period `k` of `v` would make
   `p - k` a local repetition at `crit`, hence a period of `x`).
2. `Words.PerW.sub`: (weak Fine-Wilf) if `v` has periods `a > b` with `a + b <= |v|` then `a - b`
   is a period of `v`; hence a period `d` of `v` with `d + p <= |v|` is a multiple of `p`
   (`Words.PerW.dvd_of_min`).
3. Two full right matches at distance `d` make `d` a period of `v`.  If `d + p <= |v|`, `d` is a
   multiple of `p` and the left part of the second match lies inside the matched region of the
   first and equals `u` by periodicity: the second position is an occurrence.  Otherwise
   `d >= max(p, |v| - p + 1) > |x| / 4`.
-/
import MemchrModel.Proofs.CostBase
import MemchrModel.Proofs.TwoWayCert

namespace Memchr.TwoWay

open Memchr

/-- what the cost analysis needs from a prefilter strategy: on every valid slice it costs at most
`4 * consumed + 1020` steps (`consumed` = candidate + 1, or the length when there is none) and a
candidate lies inside the slice -/
def StratCost (strat : Slice → M (Option Nat)) : Prop :=
  ∀ sub : Slice, sub.Valid →
    Costs (strat sub) (fun r k => k ≤ 4 * Fallback.scanned r sub.len + 1020 ∧ ∀ x, r = some x → x < sub.len)

/-- a strategy that costs at most `4 * consumed + 1020` steps is paid for at `1025` steps per
byte, the tick of `Pre::find` included: it is only run on non-empty tails, so `consumed >= 1` -/
theorem StratCost.stratPaid {strat : Slice → M (Option Nat)} (h : StratCost strat) {hay : Slice}
    (hv : hay.Valid) : StratPaid hay strat 1025 := by
  intro a ha c r c' e
  obtain ⟨k, hk, hb, hr⟩ := h (tailFrom hay a) (Slice.drop_valid hv (Nat.le_of_lt ha)) c r c' e
  refine ⟨?_, hr⟩
  change k ≤ 4 * Fallback.scanned r (hay.len - a) + 1020 at hb
  have : 1 ≤ Fallback.scanned r (hay.len - a) := Fallback.scanned_pos (Nat.sub_pos_of_lt ha)
  omega

open Words

/-- `p`, the smallest period of the needle, is the smallest period of `v = n[c..]` too -/
theorem vper_min {n : Slice} {c p : Nat} (hn : n.Valid) (hcore : Core n.toArray c)
    (hper : Per n.toArray p) (hmin : ∀ k, Per n.toArray k → p ≤ k) (hpl : c + p ≤ n.len)
    {k : Nat} (hk1 : 1 ≤ k) (hk : PerW n.getD c n.len k) : p ≤ k := by
  apply Classical.byContradiction
  intro hlt
  obtain ⟨e, rfl⟩ := Nat.exists_eq_add_of_le (Nat.le_of_not_le hlt)
  have hlr : LR n.toArray c e := by
    apply (lr_iff_getD hn).mpr
    intro t h1 h2 h3
    rw [per_getD hn hper t (by omega), hk (t + e) h1 (by omega), Nat.add_right_comm,
      Nat.add_assoc]
  have := hmin e (hcore e (by omega) hlr).1
  omega

/-- **`GapOK` for every needle in the `Small` case and every haystack.** -/
theorem gapOK (hay n : Slice) (hn : n.Valid) (c p : Nat) (hcert : CertFwd n.toArray c (.small p))
    (hpl : c + p ≤ n.len) (h2c : 2 * c < n.len) : GapOK hay n c := by
  obtain ⟨hcore, hper, hmin⟩ := hcert
  have hcp := hcore.crit_lt_per hper
  have hp0 := perW_of_per hn hper
  intro q q' hqq hm hm' ⟨t0, ht0, hne⟩
  obtain ⟨d, rfl⟩ := Nat.exists_eq_add_of_le (Nat.le_of_lt hqq)
  rw [Nat.add_sub_cancel_left]
  -- the distance is a period of `v`
  have hd : PerW n.getD c n.len d := fun t ht1 ht2 => by
    rw [hm (t + d) (Nat.le_trans ht1 (Nat.le_add_right t d)) ht2,
      hm' t ht1 (Nat.lt_of_le_of_lt (Nat.le_add_right t d) ht2), Nat.add_assoc, Nat.add_comm t d]
  have hpd := vper_min hn hcore hper hmin hpl (Nat.pos_of_lt_add_right hqq) hd
  by_cases hsmall : c + d + p ≤ n.len
  · -- the second position is an occurrence: contradiction
    exfalso
    obtain ⟨j, rfl⟩ := PerW.dvd_of_min hper.1 (hp0.mono (Nat.zero_le c) (Nat.le_refl _))
      (fun k hk1 hk => vper_min hn hcore hper hmin hpl hk1 hk) _ hd hsmall
    apply hne
    by_cases ht0c : c ≤ t0
    · exact hm' t0 ht0c ht0
    · rw [hp0.mul t0 j (Nat.zero_le _) (by omega), hm (t0 + p * j) (by omega) (by omega),
        Nat.add_assoc, Nat.add_comm t0]
  · omega

/-- the prefilter "strategy" of a search without prefilter -/
theorem stratCost_none : StratCost (fun _ => pure none) := by
  intro sub _
  apply Costs.pure
  exact ⟨by omega, nofun⟩

/-- **One forward search with the finder that `Finder::new(n0)` built**, for a search needle `n`
holding the bytes of `n0` (possibly in another region), with no prefilter or with any sound one in
ANY `PrefilterState`: the values `Finder::new` computes satisfy the certificate, so `find_of_cert`
applies, and its `FindBound` is read off for them.  Without a prefilter: `3` steps per byte of the
haystack.  With one that costs `StratCost`: `1031` per byte scanned, `scanned` = answer + 1, or the
haystack length for `None`; this holds in the `Large` and in the `Small` case (`gapOK`), and the
adaptive `is_effective` test does not matter for it. -/
theorem find_run_of_cert (n0 n hay : Slice) (tw : TwoWay) (c0 c0' : Ctr)
    (hn0 : n0.Valid) (hn : n.Valid) (hh : hay.Valid) (hbytes : n.toList = n0.toList)
    (hnew : Finder.new n0 c0 = .ok tw c0') (pre : Option Pre)
    (hsound : ∀ p, pre = some p → ∀ h' : Slice, h'.Valid → ∀ c, ∃ r c', p.strat h' c = .ok r c' ∧
      ∀ q, Spec.OccAt h'.toArray n.toArray q → ∃ a, r = some a ∧ a ≤ q)
    (c : Ctr) :
    ∃ pre' c', Finder.findWithPrefilter tw pre hay n c =
        .ok (Spec.leftmost hay.toArray n.toArray, pre') c' ∧
      (pre = none → c'.steps ≤ c.steps + 3 * hay.len + 2 * n.len + 1) ∧
      ((∀ p, pre = some p → StratCost p.strat) →
        c'.steps ≤ c.steps + 1031 * Fallback.scanned (Spec.leftmost hay.toArray n.toArray) hay.len +
          2 * n.len + 1) := by
  have harr := Slice.toArray_congr hn hn0 hbytes
  have hlen : n.len = n0.len := (Slice.same_bytes hbytes).1
  obtain ⟨_, hbs, hcert, hlarge, hsmall⟩ := Holds.of_run (finder_new_full n0 c0 hn0) hnew
  rw [← harr] at hcert hbs
  rw [← hlen] at hlarge hsmall
  -- the strategy of `pre`; any will do when there is none
  obtain ⟨strat, hok, hsnd, hcst⟩ : ∃ strat, PreOK strat pre ∧
      (pre ≠ none → PreSound n hay strat) ∧
      ((∀ p, pre = some p → StratCost p.strat) → StratCost strat) := by
    cases pre with
    | none => exact ⟨fun _ => pure none, nofun, fun h => absurd rfl h, fun _ => stratCost_none⟩
    | some p =>
      exact ⟨p.strat, fun p' hp' => by cases hp'; rfl,
        fun _ => preSound_of_global hh (hsound p rfl), fun h => h p rfl⟩
  obtain ⟨⟨_, pre'⟩, c', e, rfl, _, _, hsteps⟩ :=
    find_of_cert tw n hay pre c strat hn hh hcert hbs hok hsnd
  have hb := hsteps fun s hs => (hlarge s hs).1
  exact ⟨pre', c', e, hb.nopre, fun hcost =>
    hb.paid (fun _ => (hcst hcost).stratPaid hh) fun p hp =>
      gapOK hay n hn tw.criticalPos p (hp ▸ hcert) (hsmall p hp).2
        (Nat.mul_comm .. ▸ (hsmall p hp).1)⟩

/-- the value part of `find_run_of_cert` -/
theorem find_ok_of_cert (n0 n hay : Slice) (tw : TwoWay) (c0 c0' : Ctr)
    (hn0 : n0.Valid) (hn : n.Valid) (hh : hay.Valid) (hbytes : n.toList = n0.toList)
    (hnew : Finder.new n0 c0 = .ok tw c0')
    (pre : Option Pre)
    (hpre : ∀ p, pre = some p → ∀ h' : Slice, h'.Valid → ∀ c, ∃ r c', p.strat h' c = .ok r c' ∧
      ∀ q, Spec.OccAt h'.toArray n.toArray q → ∃ a, r = some a ∧ a ≤ q)
    (c : Ctr) :
    ∃ pre' c', Finder.findWithPrefilter tw pre hay n c =
      .ok (Spec.leftmost hay.toArray n.toArray, pre') c' :=
  let ⟨pre', c', e, _⟩ := find_run_of_cert n0 n hay tw c0 c0' hn0 hn hh hbytes hnew pre hpre c
  ⟨pre', c', e⟩

#print axioms find_ok_of_cert

end Memchr.TwoWay
