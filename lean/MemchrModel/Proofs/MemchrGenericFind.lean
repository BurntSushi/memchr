/-
`find_raw`: loop lemmas and the master theorem, each giving the value and the step bound
"one step per chunk or block, and every chunk or block moves `cur` forward" in one walk.
The limits `end.sub(V::BYTES)`, `end.sub(LOOP_SIZE)` are variables tied to `end_` by additive
equations, so that no side condition mentions a truncated subtraction.
-/
import MemchrModel.Proofs.MemchrGenericChunk

namespace Memchr.Generic

variable {V : VecImpl}

theorem fwdLoop1_spec (L : Lawful V) {ns : Needles} {m : Mem} {lo lim end_ cur : Nat} {c : Ctr}
    (hlim : lim + V.bytes = end_) (hb : m.base ≤ lo) (hll : lo ≤ lim) (hlc : lo ≤ cur)
    (hce : cur ≤ end_) (he : end_ ≤ m.base + m.bytes.size) (hno : NoHit m ns.confirm lo cur) :
    Holds (fwdLoop1 V ns m end_ lim cur) c (fun r c' =>
      FirstRes m ns.confirm lo end_ r ∧ c'.steps + cur ≤ c.steps + upto r end_) := by
  have hbc : m.base ≤ cur := Nat.le_trans hb hlc
  have hpos := V.bytes_pos
  fun_induction fwdLoop1 V ns m end_ lim cur generalizing c with
  | case1 cur h ih =>
    have hcv : cur + V.bytes ≤ end_ := hlim ▸ Nat.add_le_add_right h _
    apply Holds.distance_bind' hbc hce he
    intro d hd
    apply Holds.dbgAssert_bind' (dist_ge hd hcv)
    apply Holds.bind (searchChunk_first L hbc (Nat.le_trans hcv he))
    rintro r c1 ⟨hres, hst⟩
    cases r with
    | some p =>
      exact Holds.pure ⟨hres.extend hno (Nat.le_refl _) hlc hcv, step_le hst (Nat.lt_succ_of_le hres.1)⟩
    | none =>
      apply Holds.padd_bind hbc (Nat.le_trans hcv he)
      apply Holds.mono (ih (Nat.le_trans hlc (Nat.le_add_right _ _)) hcv
        (hno.union hres (Nat.le_refl _)) (Nat.le_trans hbc (Nat.le_add_right _ _)))
      exact fun r c' ⟨hfr, hc⟩ => ⟨hfr,
        budget_trans (step_le hst (Nat.lt_add_of_pos_right hpos)) hc⟩
  | case2 cur h h2 =>
    -- the tail: `d` bytes are left; the last chunk starts `back = V::BYTES - d` before `cur`,
    -- which is at `lim`
    have hlc' : lim ≤ cur := Nat.le_of_lt (Nat.lt_of_not_le h)
    have hbl : m.base ≤ lim := Nat.le_trans hb hll
    apply Holds.distance_bind' hbc hce he
    intro d hd
    have hdv : d < V.bytes := dist_lt hd (hlim ▸ Nat.add_lt_add_right (Nat.lt_of_not_le h) _)
    apply Holds.dbgAssert_bind' hdv
    apply Holds.csub_bind' (Nat.le_of_lt hdv)
    intro back hback
    have hcl : lim + back = cur := tail_back hlim hd hback
    apply Holds.psub_bind' (hcl ▸ Nat.add_le_add_right hbl _) (Nat.le_trans hce he)
    intro cur' hcur'
    obtain rfl : cur' = lim := Nat.add_right_cancel (hcur'.trans hcl.symm)
    apply Holds.distance_bind' hbl (hlim ▸ Nat.le_add_right _ _) he
    intro d' hd'
    obtain rfl : d' = V.bytes := by omega
    apply Holds.dbgAssert_bind (beq_self_eq_true _)
    apply Holds.mono (searchChunk_first L hbl (hlim ▸ he))
    rintro r c1 ⟨hres, hst⟩
    rw [hlim] at hres
    cases r with
    | some p =>
      have hfr := hres.extend hno hlc' hll (Nat.le_refl _)
      exact ⟨hfr, step_le hst (Nat.lt_succ_of_le (hfr.ge hno))⟩
    | none => exact ⟨hno.union hres hlc', step_le hst h2⟩
  | case3 cur h h2 =>
    obtain rfl : cur = end_ := Nat.le_antisymm hce (Nat.le_of_not_lt h2)
    exact Holds.pure ⟨hno, Nat.le_refl _⟩

theorem fwdLoopN_spec (L : Lawful V) {ns : Needles} {u : Nat} {hu : 0 < u} {m : Mem}
    {lo limN lim1 end_ cur : Nat} {c : Ctr}
    (hlimN : limN + u * V.bytes = end_) (hlim1 : lim1 + V.bytes = end_)
    (hb : m.base ≤ lo) (hll : lo ≤ lim1) (hlc : lo ≤ cur) (hce : cur ≤ end_)
    (hal : cur % V.bytes = 0) (he : end_ ≤ m.base + m.bytes.size)
    (hno : NoHit m ns.confirm lo cur) :
    Holds (fwdLoopN V ns u hu m end_ limN lim1 cur) c (fun r c' =>
      FirstRes m ns.confirm lo end_ r ∧ c'.steps + cur ≤ c.steps + upto r end_) := by
  have hbc : m.base ≤ cur := Nat.le_trans hb hlc
  have hupos : 0 < u * V.bytes := Nat.mul_pos hu V.bytes_pos
  fun_induction fwdLoopN V ns u hu m end_ limN lim1 cur generalizing c with
  | case1 cur h ih =>
    have hcv : cur + u * V.bytes ≤ end_ := hlimN ▸ Nat.add_le_add_right h _
    apply Holds.dbgAssert_bind (beq_iff_eq.mpr hal)
    apply Holds.bind (block_first L hbc (Nat.le_trans hcv he) (fun _ => hal))
    rintro r c1 ⟨hres, hst⟩
    cases r with
    | some p =>
      exact Holds.pure ⟨hres.extend hno (Nat.le_refl _) hlc hcv, step_le hst (Nat.lt_succ_of_le hres.1)⟩
    | none =>
      apply Holds.padd_bind hbc (Nat.le_trans hcv he)
      apply Holds.mono (ih (Nat.le_trans hlc (Nat.le_add_right _ _)) hcv
        ((Nat.add_mul_mod_self_right ..).trans hal) (hno.union hres (Nat.le_refl _))
        (Nat.le_trans hbc (Nat.le_add_right _ _)))
      exact fun r c' ⟨hfr, hc⟩ => ⟨hfr,
        budget_trans (step_le hst (Nat.lt_add_of_pos_right hupos)) hc⟩
  | case2 cur h =>
    exact fwdLoop1_spec L hlim1 hb hll hlc hce he hno

/-- **`find_raw`.**  For every lawful `V`, every needle set, unroll factor, region and window of
at least `V::BYTES` bytes: the run returns normally with the first needle byte, after at most one
step per byte looked at (`steps ≤ upto r end - start`). -/
theorem findRaw_spec (L : Lawful V) (ns : Needles) (u : Nat) (hu : 0 < u)
    (m : Mem) (start end_ : Nat) (c : Ctr)
    (hs : m.base ≤ start) (he : end_ ≤ m.base + m.bytes.size) (hlen : start + V.bytes ≤ end_) :
    Holds (findRaw V ns u hu m start end_) c (fun r c' =>
      FirstRes m ns.confirm start end_ r ∧ c'.steps + start ≤ c.steps + upto r end_) := by
  unfold findRaw
  apply Holds.dbgAssert_bind' L.bytes_le
  apply Holds.distance_bind' hs (Nat.le_trans (Nat.le_add_right _ _) hlen) he
  intro len hlen'
  apply Holds.dbgAssert_bind' (dist_ge hlen' hlen)
  apply Holds.bind (searchChunk_first L hs (Nat.le_trans hlen he))
  rintro r c1 ⟨hres, hst⟩
  cases r with
  | some p =>
    exact Holds.pure ⟨hres.extend (NoHit.empty m _ (Nat.le_refl start)) (Nat.le_refl _)
      (Nat.le_refl _) hlen, step_le hst (Nat.lt_succ_of_le hres.1)⟩
  | none =>
    apply Holds.csub_bind' (Nat.le_of_lt (and_align_lt L start))
    intro adv hadv
    obtain ⟨hadv0, hadvB, hal⟩ := align_up (and_align L start) V.bytes_pos hadv
    have hcur : start + adv ≤ end_ := Nat.le_trans (Nat.add_le_add_left hadvB _) hlen
    apply Holds.padd_bind hs (Nat.le_trans hcur he)
    apply Holds.psub_bind' (Nat.le_trans (Nat.add_le_add_right hs _) hlen) he
    intro lim1 hlim1
    have hsl : start ≤ lim1 := le_of_add_le hlen hlim1 (Nat.le_refl _)
    have hlt : start < start + adv := Nat.lt_add_of_pos_right hadv0
    apply Holds.dbgAssert_and_bind hlt hsl
    have hno : NoHit m ns.confirm start (start + adv) :=
      hres.mono (Nat.le_refl _) (Nat.add_le_add_left hadvB _)
    refine Holds.ite (fun hbig => ?_) (fun _ => ?_)
    · apply Holds.psub_bind' (show m.base + u * V.bytes ≤ end_ by omega) he
      intro limN hlimN
      apply Holds.mono (fwdLoopN_spec L hlimN hlim1 hs hsl (Nat.le_add_right _ _) hcur hal he hno)
      exact fun r c' ⟨hfr, hc⟩ => ⟨hfr, budget_trans (step_le hst hlt) hc⟩
    · apply Holds.mono (fwdLoop1_spec L hlim1 hs hsl (Nat.le_add_right _ _) hcur he hno)
      exact fun r c' ⟨hfr, hc⟩ => ⟨hfr, budget_trans (step_le hst hlt) hc⟩

end Memchr.Generic
