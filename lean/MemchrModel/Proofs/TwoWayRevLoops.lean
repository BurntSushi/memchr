/-
Two-Way, reverse direction: the comparison loops of `rfind_small_imp` / `rfind_large_imp`, the
mirror images of the combinatorial facts (a)-(c) of DESIGN section 8, and the two outer search
loops relative to an abstract loop invariant (`LoopInvRev`, as `LoopInv` in
`Proofs/TwoWayLoops.lean`); `rfind_spec` is `rfind` as a whole in these terms.

The step bound is output-sensitive, `3` steps per byte the window end travelled, and is counted as
in the forward loops without a prefilter, one lemma about variables per way an iteration can end,
but with a potential that falls with `pos` (`budget_down`): `3 * pos` in `Large`,
`3 * pos + min crit shift` in `Small`, where the period memory covers `[shift, len)`.

Coordinates: `pos` is the *end* of the current window as in the Rust, the window is
`haystack[pos - nlen .. pos)`; `MatchR haystack needle (pos - nlen) lo hi` says that the needle
bytes `[lo, hi)` equal the haystack bytes under them.
-/
import MemchrModel.Proofs.TwoWayLemmas

namespace Memchr.TwoWay

/-- an occurrence at `q - k` (written `q' + k = q`) whose right part overlaps a matched left
part `[i, crit)` at `q` makes `k` a local repetition at `crit` -/
theorem lr_of_occ_rev {h n : Slice} (hn : n.Valid) {crit q q' i k : Nat} (hq : q' + k = q)
    (hm : MatchR h n q i crit) (hk : i + k ≤ crit ∨ i = 0) (hocc : Occ h n q') :
    LR n.toArray crit k :=
  (lr_iff_getD hn).mpr fun t h1 h2 h3 =>
    hocc.2.overlap (hq ▸ hm) (by omega) h2 (Nat.zero_le _) h3

/-- (a) after the left part `x[i..crit)` matched at `q` and `x[i-1]` mismatched, no occurrence
starts in `[q - (crit - i), q]` -/
theorem no_occ_left_mismatch {h n : Slice} (hn : n.Valid) {crit q q' i k : Nat}
    (hcore : CoreRev n.toArray crit) (hq : q' + k = q) (hm : MatchR h n q i crit)
    (hi : 0 < i) (hic : i ≤ crit)
    (hne : n.getD (i - 1) ≠ h.getD (q + (i - 1))) (hk : k ≤ crit - i) : ¬ Occ h n q' := by
  intro hocc
  have hcn : crit ≤ n.len := Slice.toArray_size hn ▸ hcore.1
  -- `x[i - 1]`, written `x[d]`
  obtain ⟨d, rfl⟩ : ∃ d, i = d + 1 := ⟨i - 1, (Nat.sub_add_cancel hi).symm⟩
  rw [Nat.add_sub_cancel] at hne
  have hdk : d + k < n.len := by omega
  by_cases hk0 : k = 0
  · subst hk0
    obtain rfl : q' = q := hq
    exact hne (hocc.2 d (Nat.zero_le d) hdk)
  · have hlr := lr_of_occ_rev hn hq hm (Or.inl (by omega)) hocc
    have hper := (hcore.2 k (Nat.pos_of_ne_zero hk0) hlr).1
    -- `x[d] = x[d + k]` by the period, and `x[d + k]` is the haystack byte under `x[d]`
    have e2 := hocc.2 (d + k) (Nat.zero_le _) hdk
    rw [Nat.add_left_comm, hq, Nat.add_comm d q] at e2
    exact hne (by rw [per_getD hn hper d hdk, e2])

/-- (b) after a full left match at `q`, no occurrence starts in `(q - s, q)` when `s` is at
most the smallest period -/
theorem no_occ_after_left_match {h n : Slice} (hn : n.Valid) {crit q q' s k : Nat}
    (hcore : CoreRev n.toArray crit) (hq : q' + k = q) (hm : MatchR h n q 0 crit)
    (hmin : ∀ k, Per n.toArray k → s ≤ k) (hk1 : 1 ≤ k) (hks : k < s) :
    ¬ Occ h n q' := by
  intro hocc
  have hlr := lr_of_occ_rev hn hq hm (Or.inr rfl) hocc
  have := hmin k (hcore.2 k hk1 hlr).1
  omega

/-- (c) the period memory: after a full left match with the window end at `pos`, the bytes
`[p, |x|)` match with the window end at `pos - p` -/
theorem memory_after_period_rev {h n : Slice} {crit pos p : Nat} (hpp : p ≤ pos)
    (hge : n.len ≤ pos - p)
    (hper : ∀ t, t + p < n.len → n.getD t = n.getD (t + p)) (hcp : n.len ≤ crit + p)
    (hm : MatchR h n (pos - n.len) 0 crit) : MatchR h n (pos - p - n.len) p n.len := by
  intro t ht1 ht2
  obtain ⟨u, rfl⟩ := Nat.exists_eq_add_of_le' ht1
  rw [← hper u ht2, hm u (Nat.zero_le _) (by omega)]
  congr 1; omega

/-- byte-set skip: if the haystack byte under the needle's first position is not in the set,
no occurrence starts in `(q - |x|, q]` -/
theorem no_occ_byteset_rev {h n : Slice} {bs : ApproximateByteSet} {q q' k : Nat}
    (hq : q' + k = q)
    (hbs : ∀ t, t < n.len → bs.has (n.getD t) = true)
    (hnc : bs.has (h.getD q) = false) (hk : k < n.len) :
    ¬ Occ h n q' := by
  intro hocc
  have e := hocc.2 k (Nat.zero_le k) hk
  rw [hq] at e
  rw [← e, hbs _ hk] at hnc
  cases hnc

/-- byte `t` of the window `[pos - n, pos)` lies inside the haystack -/
theorem rev_window_lt {pos n H t : Nat} (hb : n ≤ pos) (hp : pos ≤ H) (ht : t < n) :
    pos - n + t < H := by omega

/-- the move `crit - i + 1` after a mismatch below `i` in the left part stays inside a window that
fits -/
theorem mismatch_advance_le_rev {i crit n pos : Nat} (hc : 1 ≤ crit) (hi : 0 < i) (hcn : crit ≤ n)
    (hb : n ≤ pos) : crit - i + 1 ≤ pos := by omega

theorem revCmp_spec (fn : String) (n h : Slice) (pos i : Nat) (c : Ctr)
    (hb : n.len ≤ pos) (hp : pos ≤ h.len) (hi : i ≤ n.len) :
    ∃ i' c', FinderRev.revCmp fn n h pos i c = .ok i' c' ∧ i' ≤ i ∧
      MatchR h n (pos - n.len) i' i ∧
      (0 < i' → n.getD (i' - 1) ≠ h.getD (pos - n.len + (i' - 1))) ∧
      c'.steps = c.steps + (i - i') ∧ c'.loads = c.loads := by
  fun_induction FinderRev.revCmp fn n h pos i generalizing c with
  | case1 i hi0 ih =>
    have hi1 : i - 1 < n.len := Nat.lt_of_lt_of_le (Nat.sub_lt hi0 Nat.one_pos) hi
    apply Holds.csub_bind hi0
    apply Holds.get_bind hi1
    apply Holds.csub_bind hb
    apply Holds.csub_bind (Nat.le_trans hi0 (Nat.le_add_left _ _))
    rw [Nat.add_sub_assoc hi0]
    apply Holds.get_bind (rev_window_lt hb hp hi1)
    refine Holds.ite (fun hab => ?_) (fun hab => ?_)
    · apply Holds.tick_bind
      refine Holds.mono (ih _ (Nat.le_of_lt hi1)) ?_
      rintro i' c' ⟨h1, h2, h3, h4, h5⟩
      have hs := MatchR.single (eq_of_beq hab)
      rw [Nat.sub_add_cancel hi0] at hs
      exact ⟨Nat.le_trans h1 (Nat.sub_le _ _), h2.append hs, h3, count_down h4 h1 hi0, h5⟩
    · exact Holds.pure ⟨Nat.le_refl _, MatchR.empty _ _ _ _, fun _ => mt beq_iff_eq.mpr hab,
        count_zero _ _, rfl⟩
  | case2 i hi0 =>
    exact Holds.pure ⟨Nat.le_refl _, MatchR.empty _ _ _ _, fun h => absurd h hi0,
      count_zero _ _, rfl⟩

theorem revFwdCmp_spec (fn : String) (n h : Slice) (pos bound j : Nat) (c : Ctr)
    (hb : n.len ≤ pos) (hp : pos ≤ h.len) (hbd : bound ≤ n.len) :
    ∃ j' c', FinderRev.revFwdCmp fn n h pos bound j c = .ok j' c' ∧ j ≤ j' ∧
      j' ≤ max j bound ∧ MatchR h n (pos - n.len) j j' ∧
      (j' < bound → n.getD j' ≠ h.getD (pos - n.len + j')) ∧
      c'.steps = c.steps + (j' - j) ∧ c'.loads = c.loads := by
  fun_induction FinderRev.revFwdCmp fn n h pos bound j generalizing c with
  | case1 j hj ih =>
    have hjn : j < n.len := Nat.lt_of_lt_of_le hj hbd
    apply Holds.get_bind hjn
    apply Holds.csub_bind hb
    apply Holds.get_bind (rev_window_lt hb hp hjn)
    refine Holds.ite (fun hab => ?_) (fun hab => ?_)
    · apply Holds.tick_bind
      refine Holds.mono (ih _) ?_
      rintro j' c' ⟨h1, h2, h3, h4, h5, h6⟩
      exact ⟨Nat.le_of_succ_le h1,
        Nat.le_trans h2
          (Nat.max_le.mpr ⟨Nat.le_trans hj (Nat.le_max_right _ _), Nat.le_max_right _ _⟩),
        (MatchR.single (eq_of_beq hab)).append h3, h4, count_up h5 h1, h6⟩
    · exact Holds.pure ⟨Nat.le_refl _, Nat.le_max_left _ _, MatchR.empty _ _ _ _,
        fun _ => mt beq_iff_eq.mpr hab, count_zero _ _, rfl⟩
  | case2 j hj =>
    exact Holds.pure ⟨Nat.le_refl _, Nat.le_max_left _ _, MatchR.empty _ _ _ _,
      fun h => absurd h hj, count_zero _ _, rfl⟩

/-- closure properties of an abstract loop invariant `Inv pos` (`pos` the window end) under the
ways the reverse loops move `pos` down (`step` is `period` resp. `shift`), and of `Done` -/
structure LoopInvRev (tw : TwoWay) (needle haystack : Slice) (step : Nat) (Inv : Nat → Prop)
    (Done : Prop) : Prop where
  done : ∀ pos, Inv pos → pos < needle.len → Done
  bs : ∀ pos, Inv pos → needle.len ≤ pos → pos ≤ haystack.len →
    tw.byteset.has (haystack.getD (pos - needle.len)) = false → Inv (pos - needle.len)
  left : ∀ pos i, Inv pos → needle.len ≤ pos → pos ≤ haystack.len → 0 < i →
    i ≤ tw.criticalPos → MatchR haystack needle (pos - needle.len) i tw.criticalPos →
    needle.getD (i - 1) ≠ haystack.getD (pos - needle.len + (i - 1)) →
    Inv (pos - (tw.criticalPos - i + 1))
  right : ∀ pos m, Inv pos → needle.len ≤ pos → pos ≤ haystack.len →
    MatchR haystack needle (pos - needle.len) 0 tw.criticalPos → m < needle.len →
    needle.getD m ≠ haystack.getD (pos - needle.len + m) → Inv (pos - step)

/-- the end of the window a reverse search stopped at: `q + len` for `Some(q)`, `0` for `None`.
The step bounds of the reverse loops are output-sensitive: `3` steps per byte the window end
travelled, from `pos` down to `endOf`. -/
def endOf (len : Nat) : Option Nat → Nat
  | some q => q + len
  | none => 0

/-- What a reverse loop hands back (`LoopPost` of the forward loops, without a prefilter): a
reported `Some(q)` is an occurrence with `Inv` at its window end, `None` comes with `Done`, and the
answer and the final counter are within the step bound `B`. -/
structure LoopPostRev (needle haystack : Slice) (Inv : Nat → Prop) (Done : Prop)
    (B : Option Nat → Ctr → Prop) (r : Option Nat) (c' : Ctr) : Prop where
  hit : ∀ q, r = some q → Inv (q + needle.len) ∧ Occ haystack needle q
  miss : r = none → Done
  steps : B r c'

theorem LoopPostRev.of_next {needle haystack : Slice} {Inv : Nat → Prop} {Done : Prop}
    {B B1 : Option Nat → Ctr → Prop} {r : Option Nat} {c' : Ctr}
    (h : LoopPostRev needle haystack Inv Done B1 r c') (hB : B1 r c' → B r c') :
    LoopPostRev needle haystack Inv Done B r c' :=
  ⟨h.hit, h.miss, hB h.steps⟩

/-! ### step accounting of the reverse `Large` loop

The potential is `3 * pos`; no move leaves the haystack (`shift <= len` by `SoundPreRev`, and the
Rust subtracts with a check).  `a` is the counter when the iteration starts, `b` after its
comparisons. -/

/-- an iteration that spends `k <= 2 * adv` steps on comparisons and then moves the window end
down by `adv >= 1` -/
theorem largeRev_round {a b pos k adv : Nat} (hb : b ≤ a + 1 + k) (hk : k ≤ 2 * adv)
    (hadv : 1 ≤ adv) (hle : adv ≤ pos) : b + 3 * (pos - adv) ≤ a + 3 * pos := by omega

/-- a hit with the window end at `e <= pos`, after `k <= n` steps of comparisons -/
theorem largeRev_hit {a b pos e n k : Nat} (hb : b ≤ a + 1 + k) (hk : k ≤ n) (he : e ≤ pos) :
    b + 3 * e ≤ a + 3 * pos + (n + 1) := by omega

section
variable {tw : TwoWay} {needle haystack : Slice} {Inv : Nat → Prop} {Done : Prop}

theorem largeLoop_spec_rev (hn : 0 < needle.len) (s : Nat)
    (hc1 : 1 ≤ tw.criticalPos) (hcn : tw.criticalPos ≤ needle.len) (hs1 : 1 ≤ s)
    (hsn : s ≤ needle.len) (hI : LoopInvRev tw needle haystack s Inv Done)
    (pos : Nat) (c : Ctr) (hpos : pos ≤ haystack.len) (hinv : Inv pos) :
    Holds (FinderRev.largeLoop tw needle haystack hn s (needle.getD 0) pos) c
      (LoopPostRev needle haystack Inv Done fun r c' => needle.len ≤ 2 * s →
        c'.steps + 3 * endOf needle.len r ≤ c.steps + 3 * pos + (needle.len + 1)) := by
  fun_induction FinderRev.largeLoop tw needle haystack hn s (needle.getD 0) pos generalizing c with
  | case1 pos h ih1 ih2 ih3 =>
    have hpp : ∀ k, pos - k ≤ haystack.len := fun k => Nat.le_trans (Nat.sub_le _ _) hpos
    have hfirst : pos - needle.len < haystack.len := rev_window_lt h hpos hn
    apply Holds.tick_bind
    apply Holds.csub_bind h
    apply Holds.get_bind hfirst
    apply contains_bind
    cases hin : tw.byteset.has (haystack.getD (pos - needle.len)) with
    | false =>
      refine Holds.mono (ih1 _ (hpp _) (hI.bs _ hinv h hpos hin)) fun r c' hx =>
        hx.of_next fun h3 hs =>
          budget_down (largeRev_round (k := 0) (Nat.le_refl _) (Nat.zero_le _) hn h) (h3 hs)
    | true =>
      apply Holds.bind (revCmp_spec "rfind_large_imp" needle haystack pos tw.criticalPos _ h hpos
        hcn)
      rintro i c2 ⟨hi1, hi2, hi3, hstep2, _⟩
      refine Holds.ite (fun hi0 => ?_) (fun hi0 => ?_)
      · have hadv : tw.criticalPos - i + 1 ≤ pos := mismatch_advance_le_rev hc1 hi0 hcn h
        apply Holds.csub_bind hi1
        apply Holds.csub_bind hadv
        refine Holds.mono (ih2 (tw.criticalPos - i) _ (hpp _)
          (hI.left pos i hinv h hpos hi0 hi1 hi2 (hi3 hi0))) fun r c' hx =>
            hx.of_next fun h3 hs => budget_down (largeRev_round (Nat.le_of_eq hstep2)
              (le_two_mul_succ _) (Nat.succ_pos _) hadv) (h3 hs)
      · obtain rfl : i = 0 := Nat.eq_zero_of_not_pos hi0
        apply Holds.csub_bind h
        apply Holds.get_bind hfirst
        have hx0 : (needle.getD 0 != haystack.getD (pos - needle.len)) = false :=
          bne_eq_false_iff_eq.mpr (hi2 0 (Nat.le_refl _) hc1)
        apply Holds.pure_bind
        simp only [hx0, Bool.false_eq_true, if_false]
        apply Holds.bind (revFwdCmp_spec "rfind_large_imp" needle haystack pos needle.len
          tw.criticalPos c2 h hpos (Nat.le_refl _))
        rintro j c3 ⟨hj1, hj2, hj3, hj4, hstep3, _⟩
        rw [hstep2, Nat.add_assoc] at hstep3
        have hjle : j ≤ needle.len := Nat.max_eq_right hcn ▸ hj2
        have hk : tw.criticalPos - 0 + (j - tw.criticalPos) ≤ needle.len := by
          rw [Nat.sub_zero, Nat.add_sub_cancel' hj1]; exact hjle
        refine Holds.ite (fun hjn => ?_) (fun hjn => ?_)
        · subst hjn
          apply Holds.csub_bind h
          refine Holds.pure ⟨?_, nofun,
            fun _ => largeRev_hit (Nat.le_of_eq hstep3) hk (Nat.le_of_eq (Nat.sub_add_cancel h))⟩
          rintro q ⟨⟩
          rw [Nat.sub_add_cancel h]
          exact ⟨hinv, (Nat.sub_add_cancel h).symm ▸ hpos, hi2.append hj3⟩
        · have hjlt : j < needle.len := Nat.lt_of_le_of_ne hjle hjn
          apply Holds.csub_bind (Nat.le_trans hsn h)
          refine Holds.dite (fun hs0 => absurd hs0 (Nat.ne_of_gt hs1)) (fun hs0 => ?_)
          refine Holds.mono (ih3 hs0 _ (hpp _)
            (hI.right pos j hinv h hpos hi2 hjlt (hj4 hjlt))) fun r c' hx =>
              hx.of_next fun h3 hs => budget_down (largeRev_round (Nat.le_of_eq hstep3)
                (Nat.le_trans hk hs) hs1 (Nat.le_trans hsn h)) (h3 hs)
  | case2 pos h =>
    exact Holds.pure ⟨nofun, fun _ => hI.done pos hinv (Nat.lt_of_not_le h),
      fun _ => by rw [endOf]; omega⟩

/-! ### step accounting of the reverse `Small` loop

The potential is `3 * pos + g`, `g = min crit shift`: the bytes of the left part that the period
memory does not cover, which the first comparison may still read (`g'` is the `g` of the next
iteration).  The cases are those of `small_*` in `Proofs/TwoWayLoops.lean`, mirrored (`mis`:
mismatch in the left part below `i`; `per`: mismatch in the right part after both parts were
compared). -/

theorem smallRev_bs {a b pos n g g' : Nat} (hb : b = a + 1) (hn : 0 < n) (hnp : n ≤ pos)
    (hg' : g' ≤ n) : b + (3 * (pos - n) + g') ≤ a + (3 * pos + g) := by omega

theorem smallRev_mis {a b b' pos g g' i crit : Nat} (hb : b = a + 1) (hb' : b' = b + (g - i))
    (hig : i ≤ g) (hgc : g ≤ crit) (hg' : g' ≤ crit) (hadv : crit - i + 1 ≤ pos) :
    b' + (3 * (pos - (crit - i + 1)) + g') ≤ a + (3 * pos + g) := by omega

theorem smallRev_per {a b pos p g g' j crit : Nat} (hb : b = a + 1 + g + (j - crit))
    (hj : j ≤ crit + p) (hg' : g' ≤ p) (hp1 : 1 ≤ p) (hpp : p ≤ pos) :
    b + (3 * (pos - p) + g') ≤ a + (3 * pos + g) := by omega

theorem smallRev_hit {a b pos e n g j crit : Nat} (hb : b = a + 1 + g + (j - crit))
    (hjn : j ≤ n) (he : e ≤ pos) : b + 3 * e ≤ a + (3 * pos + g) + (n + 1) := by omega

theorem smallLoop_spec_rev (hn : 0 < needle.len) (p : Nat)
    (hc1 : 1 ≤ tw.criticalPos) (hcn : tw.criticalPos ≤ needle.len) (hp1 : 1 ≤ p)
    (hpn : p ≤ needle.len) (hcp : needle.len ≤ tw.criticalPos + p)
    (hper : ∀ t, t + p < needle.len → needle.getD t = needle.getD (t + p))
    (hI : LoopInvRev tw needle haystack p Inv Done)
    (pos shift : Nat) (c : Ctr) (hpos : pos ≤ haystack.len) (hinv : Inv pos)
    (hsn : shift ≤ needle.len)
    (hmem : needle.len ≤ pos → MatchR haystack needle (pos - needle.len) shift needle.len) :
    Holds (FinderRev.smallLoop tw needle haystack hn p (needle.getD 0) pos shift) c
      (LoopPostRev needle haystack Inv Done fun r c' =>
        c'.steps + 3 * endOf needle.len r ≤
          c.steps + (3 * pos + min tw.criticalPos shift) + (needle.len + 1)) := by
  fun_induction FinderRev.smallLoop tw needle haystack hn p (needle.getD 0) pos shift
    generalizing c with
  | case1 pos shift h ih1 ih2 ih3 =>
    have hpp : ∀ k, pos - k ≤ haystack.len := fun k => Nat.le_trans (Nat.sub_le _ _) hpos
    have hgc : min tw.criticalPos shift ≤ tw.criticalPos := Nat.min_le_left _ _
    have hfirst : pos - needle.len < haystack.len := rev_window_lt h hpos hn
    apply Holds.tick_bind
    apply Holds.csub_bind h
    apply Holds.get_bind hfirst
    apply contains_bind
    cases hin : tw.byteset.has (haystack.getD (pos - needle.len)) with
    | false =>
      refine Holds.mono (ih1 _ (hpp _) (hI.bs _ hinv h hpos hin) (Nat.le_refl _)
        (fun _ => MatchR.empty _ _ _ _)) fun r c' hx =>
          hx.of_next (budget_down (smallRev_bs rfl hn h (Nat.min_le_right _ _)))
    | true =>
      apply Holds.bind (revCmp_spec "rfind_small_imp" needle haystack pos
        (min tw.criticalPos shift) _ h hpos (Nat.le_trans hgc hcn))
      rintro i c2 ⟨hi1, hi2, hi3, hstep2, _⟩
      have hic : i ≤ tw.criticalPos := Nat.le_trans hi1 hgc
      -- the left part `[i, crit)` matches (compared below `min crit shift`, memory from `shift`)
      have hleft : MatchR haystack needle (pos - needle.len) i tw.criticalPos := by
        intro t ht1 ht2
        by_cases hts : t < shift
        · exact hi2 t ht1 (Nat.lt_min.mpr ⟨ht2, hts⟩)
        · exact hmem h t (Nat.le_of_not_lt hts) (Nat.lt_of_lt_of_le ht2 hcn)
      refine Holds.ite (fun hi0 => ?_) (fun hi0 => ?_)
      · have hadv : tw.criticalPos - i + 1 ≤ pos := mismatch_advance_le_rev hc1 hi0 hcn h
        apply Holds.csub_bind hic
        apply Holds.csub_bind hadv
        refine Holds.mono (ih2 (tw.criticalPos - i) _ (hpp _)
          (hI.left pos i hinv h hpos hi0 hic hleft (hi3 hi0)) (Nat.le_refl _)
          (fun _ => MatchR.empty _ _ _ _)) fun r c' hx =>
            hx.of_next (budget_down (smallRev_mis rfl hstep2 hi1 hgc (Nat.min_le_left _ _) hadv))
      · obtain rfl : i = 0 := Nat.eq_zero_of_not_pos hi0
        have hx0 : (needle.getD 0 != haystack.getD (pos - needle.len)) = false :=
          bne_eq_false_iff_eq.mpr (hleft 0 (Nat.le_refl _) hc1)
        apply Holds.csub_bind h
        apply Holds.get_bind hfirst
        apply Holds.pure_bind
        simp only [hx0, Bool.false_eq_true, if_false]
        apply Holds.bind (revFwdCmp_spec "rfind_small_imp" needle haystack pos shift
          tw.criticalPos c2 h hpos hsn)
        -- `hjm`: the right-part comparison stops at `shift`, or does not start (`shift <= crit`)
        rintro j c3 ⟨hj1, hjm, hj3, hj4, hstep3, _⟩
        rw [hstep2] at hstep3
        have hjn : j ≤ needle.len := Nat.le_trans hjm (Nat.max_le.mpr ⟨hcn, hsn⟩)
        refine Holds.ite (fun hjs => ?_) (fun hjs => ?_)
        · apply Holds.csub_bind h
          refine Holds.pure ⟨?_, nofun,
            smallRev_hit hstep3 hjn (Nat.le_of_eq (Nat.sub_add_cancel h))⟩
          rintro q ⟨⟩
          rw [Nat.sub_add_cancel h]
          exact ⟨hinv, (Nat.sub_add_cancel h).symm ▸ hpos,
            (hleft.append hj3).append ((hmem h).mono hjs (Nat.le_refl _))⟩
        · have hjlt : j < shift := Nat.lt_of_not_le hjs
          apply Holds.csub_bind (Nat.le_trans hpn h)
          refine Holds.dite (fun hp0 => absurd hp0 (Nat.ne_of_gt hp1)) (fun hp0 => ?_)
          refine Holds.mono (ih3 j hp0 _ (hpp _)
            (hI.right pos j hinv h hpos hleft (Nat.lt_of_lt_of_le hjlt hsn) (hj4 hjlt)) hpn
            (fun hge => memory_after_period_rev (Nat.le_trans hpn h) hge hper hcp hleft))
            fun r c' hx => hx.of_next (budget_down (smallRev_per hstep3
              (Nat.le_trans hjm (Nat.max_le.mpr ⟨Nat.le_add_right _ _, Nat.le_trans hsn hcp⟩))
              (Nat.min_le_right _ _) hp1 (Nat.le_trans hpn h)))
  | case2 pos shift h =>
    exact Holds.pure ⟨nofun, fun _ => hI.done pos hinv (Nat.lt_of_not_le h),
      by rw [endOf]; omega⟩

end

theorem loopInvRev_trivial (tw : TwoWay) (needle haystack : Slice) (step : Nat) :
    LoopInvRev tw needle haystack step (fun _ => True) True :=
  ⟨fun _ _ _ => trivial, fun _ _ _ _ _ => trivial, fun _ _ _ _ _ _ _ _ _ => trivial,
    fun _ _ _ _ _ _ _ _ => trivial⟩

/-- **`FinderRev::rfind` relative to an abstract loop invariant.**  The search never faults; a
reported `Some(q)` is an occurrence with `Inv` at its window end, `None` comes with `Done`; and
the step count is output-sensitive: `3` steps per byte the window end travelled.  The
certificate (`rfind_eq_of_cert`) and soundness alone (`rfind_sound`) are instances. -/
theorem rfind_spec (tw : TwoWay) (needle haystack : Slice) (c : Ctr) (hnv : needle.Valid)
    (Inv : Nat → Prop) (Done : Prop)
    (hsp : 0 < needle.len → SoundPreRev needle.toArray tw.criticalPos tw.shift)
    (hI : ∀ step, tw.shift = .small step ∨ tw.shift = .large step →
      LoopInvRev tw needle haystack step Inv Done)
    (hinv : Inv haystack.len) :
    Holds (FinderRev.rfind tw haystack needle) c
      (LoopPostRev needle haystack Inv Done fun r c' =>
        (∀ s, tw.shift = .large s → needle.len ≤ 2 * s) →
          c'.steps + 3 * endOf needle.len r ≤
            c.steps + 3 * haystack.len + 2 * needle.len + 1) := by
  by_cases h0 : needle.len = 0
  · refine ⟨some haystack.len, c, ?_, ?_, nofun, fun _ => ?_⟩
    · unfold FinderRev.rfind FinderRev.rfindSmallImp FinderRev.rfindLargeImp
      cases tw.shift <;> simp only [h0, dite_true] <;> rfl
    · rintro q ⟨⟩
      exact ⟨by rw [h0]; exact hinv, Nat.le_of_eq (by rw [h0]; rfl),
        fun t _ ht => absurd ht (h0 ▸ Nat.not_lt_zero t)⟩
    · rw [endOf, h0]
      exact Nat.le_succ _
  · have hn : 0 < needle.len := Nat.pos_of_ne_zero h0
    have hsp' := hsp hn
    have hsz : needle.toArray.size = needle.len := Slice.toArray_size hnv
    unfold FinderRev.rfind
    cases hshift : tw.shift with
    | small p =>
      rw [hshift, SoundPreRev, hsz] at hsp'
      obtain ⟨hc1, hcn, hper, hcp, hpn⟩ := hsp'
      simp only [FinderRev.rfindSmallImp, h0, dite_false]
      refine Holds.mono (smallLoop_spec_rev hn p hc1 hcn hper.1 hpn hcp
        (per_getD hnv hper) (hI p (Or.inl hshift)) (pos := haystack.len) (shift := needle.len) c
        (Nat.le_refl _) hinv (Nat.le_refl _) (fun _ => MatchR.empty _ _ _ _))
        fun r c' hx => hx.of_next fun h3 _ => Nat.le_trans h3 ?_
      have := Nat.min_le_right tw.criticalPos needle.len
      omega
    | large s =>
      rw [hshift, SoundPreRev, hsz] at hsp'
      obtain ⟨hc1, hcn, hs1, hsn⟩ := hsp'
      simp only [FinderRev.rfindLargeImp, h0, dite_false]
      refine Holds.mono (largeLoop_spec_rev hn s hc1 hcn hs1 hsn
        (hI s (Or.inr hshift)) (pos := haystack.len) c (Nat.le_refl _) hinv)
        fun r c' hx => hx.of_next fun h3 hh => Nat.le_trans (h3 (hh s rfl)) ?_
      omega

/-- the bound of `rfind_spec` without the output-sensitive part -/
theorem le_of_endOf {a b n k : Nat} {r : Option Nat} (h : a + 3 * endOf n r ≤ b + k) :
    a ≤ b + k :=
  Nat.le_trans (Nat.le_add_right _ _) h

end Memchr.TwoWay
