/-
Step accounting without fault-freedom.

`Costs m P` says: whenever `m` returns normally with value `a` from ANY counter state, it has
added at most `k` steps for some `k` with `P a k`.  No fault-freedom is claimed; that is what the
total-correctness theorems (`Holds`) provide, and the step bounds of the model's routines are
stated there, as one more conjunct.  `Costs` is what a statement ASSUMES of a routine it does not know
(`TwoWay.StratCost`: any prefilter closure), and a total-correctness theorem that counts steps
gives it by `Costs.of_total`.  Its rules walk a `do` block one primitive at a time without
discharging any bounds-check side condition: the side fact is handed over instead.  `Free` is the
case of no step at all, in which the facts about the primitives are stated; `Post` keeps only what
is said of the value.  Both come first, since rules of `Costs` rest on them.
-/
import MemchrModel.Base.Run

namespace Memchr

/-- every successful run adds at most `k` steps for a `k` with `P a k` -/
def Costs {α : Type} (m : M α) (P : α → Nat → Prop) : Prop :=
  ∀ c a c', m c = .ok a c' → ∃ k, c'.steps ≤ c.steps + k ∧ P a k

/-- every successful run adds no step and its value satisfies `R` -/
def Free {α : Type} (m : M α) (R : α → Prop) : Prop :=
  ∀ c a c', m c = .ok a c' → c'.steps = c.steps ∧ R a

/-- every successful run returns a value satisfying `R` (no statement about steps) -/
structure Post {α : Type} (m : M α) (R : α → Prop) : Prop where
  out : ∀ c a c', m c = .ok a c' → R a

namespace Free

variable {α : Type}

theorem pure (a : α) : Free (pure a : M α) (fun x => x = a) := by
  intro c a' c' e
  cases e
  exact ⟨rfl, rfl⟩

theorem mono {m : M α} {R S : α → Prop} (h : Free m R) (hrs : ∀ a, R a → S a) : Free m S := by
  intro c a c' e
  obtain ⟨e1, r⟩ := h c a c' e
  exact ⟨e1, hrs a r⟩

/-- from a total-correctness statement that leaves the counter alone -/
theorem of_total {m : M α} {R : α → Prop}
    (h : ∀ c, ∃ a, m c = .ok a c ∧ R a) : Free m R := by
  intro c a c' e
  obtain ⟨a1, e1, r⟩ := h c
  exact Holds.of_run (Q := fun a c' => c'.steps = c.steps ∧ R a) ⟨a1, c, e1, rfl, r⟩ e

theorem bind {β : Type} {m : M α} {f : α → M β} {R : α → Prop} {S : β → Prop}
    (hm : Free m R) (hf : ∀ a, R a → Free (f a) S) : Free (m >>= f) S := by
  intro c b c' e
  obtain ⟨a, c1, ea, eb⟩ := of_bind_ok e
  obtain ⟨e1, r⟩ := hm c a c1 ea
  obtain ⟨e2, s⟩ := hf a r c1 b c' eb
  exact ⟨e2.trans e1, s⟩

/-! ### the primitives -/

/-- the shape of the checked primitives: a guard in front of a pure value -/
theorem guard {p : Prop} [Decidable p] (v : α) (e : Fault) :
    Free (if p then Pure.pure v else Memchr.fail e : M α) (fun r => r = v ∧ p) := by
  intro c a c' h
  by_cases hp : p
  · rw [if_pos hp] at h
    cases h
    exact ⟨rfl, rfl, hp⟩
  · rw [if_neg hp] at h
    cases h

theorem guard_and {p q : Prop} [Decidable p] [Decidable q] (v : α) (e : Fault) :
    Free (if decide p && decide q then Pure.pure v else Memchr.fail e : M α)
      (fun r => r = v ∧ p ∧ q) :=
  mono (guard _ _) fun _ ⟨hr, h⟩ => by
    simp only [Bool.and_eq_true, decide_eq_true_eq] at h
    exact ⟨hr, h⟩

theorem dbgAssert (site : String) (b : Bool) : Free (dbgAssert site b) (fun _ => b = true) :=
  mono (guard () _) fun _ h => h.2

theorem assert (site : String) (b : Bool) : Free (assert site b) (fun _ => b = true) :=
  mono (guard () _) fun _ h => h.2

theorem distance (m : Mem) (site : String) (a b : Nat) :
    Free (m.distance site a b)
      (fun r => r = a - b ∧ m.base ≤ b ∧ b ≤ a ∧ a ≤ m.base + m.bytes.size) :=
  mono (guard _ _) fun _ ⟨hr, h⟩ => by
    simp only [Bool.and_eq_true, decide_eq_true_eq] at h
    exact ⟨hr, h.1.1, h.1.2, h.2⟩

theorem loadU (m : Mem) (a len : Nat) :
    Free (m.loadU a len)
      (fun r => r = m.window a len ∧ m.base ≤ a ∧ a + len ≤ m.base + m.bytes.size) := by
  intro c x c' e
  unfold Mem.loadU at e
  by_cases h : m.inb a len = true
  · rw [if_pos h] at e
    cases e
    exact ⟨rfl, rfl, (Mem.inb_iff m a len).mp h⟩
  · rw [if_neg h] at e
    cases e

theorem loadA (m : Mem) (a len : Nat) (chk : Bool) :
    Free (m.loadA a len chk)
      (fun r => r = m.window a len ∧ m.base ≤ a ∧ a + len ≤ m.base + m.bytes.size) := by
  intro c x c' e
  unfold Mem.loadA at e
  by_cases h : m.inb a len = true
  · rw [if_pos h] at e
    by_cases hal : (chk && a % len != 0) = true
    · rw [if_pos hal] at e
      cases e
    · rw [if_neg hal] at e
      cases e
      exact ⟨rfl, rfl, (Mem.inb_iff m a len).mp h⟩
  · rw [if_neg h] at e
    cases e

end Free

namespace Post

variable {α β : Type}

theorem pure {a : α} {R : α → Prop} (h : R a) : Post (Pure.pure a : M α) R := by
  constructor
  intro c a' c' e
  cases e
  exact h

theorem fail {f : Fault} {R : α → Prop} : Post (Memchr.fail f : M α) R := by
  constructor
  intro c a c' e
  cases e

theorem mono {m : M α} {R S : α → Prop} (h : Post m R) (hrs : ∀ a, R a → S a) : Post m S :=
  ⟨fun c a c' e => hrs a (h.out c a c' e)⟩

theorem bind {m : M α} {f : α → M β} {R : α → Prop} {S : β → Prop}
    (hm : Post m R) (hf : ∀ a, R a → Post (f a) S) : Post (m >>= f) S := by
  constructor
  intro c b c' e
  obtain ⟨a, c1, ea, eb⟩ := of_bind_ok e
  exact (hf a (hm.out c a c1 ea)).out c1 b c' eb

theorem of_free {m : M α} {R : α → Prop} (h : Free m R) : Post m R :=
  ⟨fun c a c' e => (h c a c' e).2⟩

theorem of_costs {m : M α} {P : α → Nat → Prop} (h : Costs m P) : Post m (fun a => ∃ k, P a k) := by
  constructor
  intro c a c' e
  obtain ⟨k, _, p⟩ := h c a c' e
  exact ⟨k, p⟩

theorem of_total {m : M α} {R : α → Prop} (h : ∀ c, ∃ a c', m c = .ok a c' ∧ R a) : Post m R :=
  ⟨fun c _ _ e => Holds.of_run (h c) e⟩

end Post

/-- strengthen a cost statement by a fact about the value -/
theorem Costs.with_post {α : Type} {m : M α} {P : α → Nat → Prop} {R : α → Prop}
    (h : Costs m P) (hr : Post m R) : Costs m (fun a k => P a k ∧ R a) := by
  intro c a c' e
  obtain ⟨k, ek, p⟩ := h c a c' e
  exact ⟨k, ek, p, hr.out c a c' e⟩

namespace Costs

variable {α β : Type} {Q : β → Nat → Prop}

theorem mono {m : M α} {P Q : α → Nat → Prop} (h : Costs m P) (hpq : ∀ a k, P a k → Q a k) :
    Costs m Q := by
  intro c a c' e
  obtain ⟨k, e1, p⟩ := h c a c' e
  exact ⟨k, e1, hpq a k p⟩

/-- a total-correctness statement with an exact or bounded step count gives a cost statement -/
theorem of_total {m : M α} {P : α → Nat → Prop}
    (h : ∀ c, ∃ a c', m c = .ok a c' ∧ ∃ k, c'.steps ≤ c.steps + k ∧ P a k) : Costs m P :=
  fun c _ _ e => Holds.of_run (h c) e

/-- combine a total-correctness statement (value only) with a cost statement -/
theorem combine {m : M α} {P : α → Nat → Prop} {R : α → Prop} (h : Costs m P) (c : Ctr)
    (ht : ∃ a c', m c = .ok a c' ∧ R a) :
    ∃ a c', m c = .ok a c' ∧ R a ∧ ∃ k, c'.steps ≤ c.steps + k ∧ P a k := by
  obtain ⟨a, c', e, r⟩ := ht
  exact ⟨a, c', e, r, h c a c' e⟩

theorem pure {a : α} {P : α → Nat → Prop} (h : P a 0) : Costs (pure a : M α) P := by
  intro c a' c' e
  cases e
  exact ⟨0, Nat.le_refl _, h⟩

theorem fail {f : Fault} {P : α → Nat → Prop} : Costs (fail f : M α) P := by
  intro c a c' e
  cases e

theorem tick {n : Nat} {Q : Unit → Nat → Prop} (h : Q () n) : Costs (tick n) Q := by
  intro c b c' e
  cases e
  exact ⟨n, Nat.le_refl _, h⟩

/-! ### rules for the head of a `do` block -/

theorem bind {m : M α} {f : α → M β} {P : α → Nat → Prop}
    (hm : Costs m P) (hf : ∀ a k1, P a k1 → Costs (f a) (fun b k2 => Q b (k1 + k2))) :
    Costs (m >>= f) Q := by
  intro c b c' e
  obtain ⟨a, c1, ea, eb⟩ := of_bind_ok e
  obtain ⟨k1, e1, p1⟩ := hm c a c1 ea
  obtain ⟨k2, e2, p2⟩ := hf a k1 p1 c1 b c' eb
  exact ⟨k1 + k2, by omega, p2⟩

theorem free_bind {m : M α} {f : α → M β} {R : α → Prop}
    (hm : Free m R) (hf : ∀ a, R a → Costs (f a) Q) : Costs (m >>= f) Q := by
  intro c b c' e
  obtain ⟨a, c1, ea, eb⟩ := of_bind_ok e
  obtain ⟨e1, r⟩ := hm c a c1 ea
  exact e1 ▸ hf a r c1 b c' eb

theorem tick_bind {n : Nat} {f : Unit → M β} (h : Costs (f ()) (fun b k => Q b (n + k))) :
    Costs (Memchr.tick n >>= f) Q :=
  bind (tick (Q := fun _ k => k = n) rfl) fun _ _ e => e ▸ h

theorem fail_bind {α : Type} {e : Fault} {f : α → M β} : Costs ((Memchr.fail e : M α) >>= f) Q := by
  intro c b c' h
  cases h

theorem loadA_bind {m : Mem} {a len : Nat} {chk : Bool} {f : List UInt8 → M β}
    (h : m.base ≤ a ∧ a + len ≤ m.base + m.bytes.size → Costs (f (m.window a len)) Q) :
    Costs (m.loadA a len chk >>= f) Q :=
  free_bind (Free.loadA m a len chk) (by rintro _ ⟨rfl, hs⟩; exact h hs)

theorem range_bind {s : Slice} {site : String} {a b : Nat} {f : Slice → M β}
    (h : a ≤ b ∧ b ≤ s.len → Costs (f ⟨s.mem, s.off + a, b - a⟩) Q) :
    Costs (s.range site a b >>= f) Q :=
  free_bind (Free.guard_and _ _) (by rintro _ ⟨rfl, hs⟩; exact h hs)

theorem ite {c : Prop} [Decidable c] {a b : M β} (ht : c → Costs a Q) (hf : ¬ c → Costs b Q) :
    Costs (if c then a else b) Q := by
  by_cases h : c
  · rw [if_pos h]; exact ht h
  · rw [if_neg h]; exact hf h

theorem dite {c : Prop} [Decidable c] {a : c → M β} {b : ¬ c → M β}
    (ht : ∀ h : c, Costs (a h) Q) (hf : ∀ h : ¬ c, Costs (b h) Q) : Costs (dite c a b) Q := by
  by_cases h : c
  · rw [dif_pos h]; exact ht h
  · rw [dif_neg h]; exact hf h

end Costs

end Memchr
