/-
The architecture independent packed-pair prefilter (`packedpair::Finder::find_prefilter`):
property C11.

Given a correct `memchr` (`Fallback.MemchrOk`), `find_prefilter` never faults, returns exactly
the least *candidate* offset (an offset `q` with `hay[q + index1] = byte1` and
`hay[q + index2] = byte2`, both in range), `None` iff there is no candidate, and costs
`K + 2` steps per byte up to the byte that made the candidate (`findPrefilter_run`; hence a
number of steps linear in the haystack length, `findPrefilter_correct`).  Every occurrence of
the needle is a candidate, so the prefilter has no false negatives.
-/
import MemchrModel.Proofs.Pair
import MemchrModel.Proofs.SliceLemmas

namespace Memchr.Fallback

/-- offset `q` passes the two-byte predicate of the finder -/
def Cand (b1 b2 : UInt8) (i1 i2 : Nat) (hay : Slice) (q : Nat) : Prop :=
  q + i1 < hay.len ∧ hay.getD (q + i1) = b1 ∧ q + i2 < hay.len ∧ hay.getD (q + i2) = b2

/-- `r` is the least candidate, if any -/
def PreRes (b1 b2 : UInt8) (i1 i2 : Nat) (hay : Slice) : Option Nat → Prop
  | none => ∀ q, ¬ Cand b1 b2 i1 i2 hay q
  | some a => Cand b1 b2 i1 i2 hay a ∧ ∀ q, Cand b1 b2 i1 i2 hay q → a ≤ q

theorem PreRes.le_of_cand {b1 b2 : UInt8} {i1 i2 : Nat} {hay : Slice} {r : Option Nat} {q : Nat}
    (h : PreRes b1 b2 i1 i2 hay r) (hc : Cand b1 b2 i1 i2 hay q) : ∃ a, r = some a ∧ a ≤ q := by
  cases r with
  | none => exact absurd hc (h q)
  | some a => exact ⟨a, rfl, h.2 q hc⟩

/-- What a run that answers `r` may have spent, at `K + 2` steps per byte from offset 0: up to
the byte `memchr` found for the candidate; for `None` the whole haystack and the constant of the
last call. -/
def runCost (K i1 len : Nat) : Option Nat → Nat
  | some a => (K + 2) * (a + i1 + 1)
  | none => (K + 2) * len + K + 1

/-- a round in which `memchr` looked at `x ≥ 1` bytes pays for its tick and the call out of the
`K + 2` steps per byte of these bytes -/
theorem round_paid {K s s2 i x : Nat} (h : s2 ≤ s + 1 + x + K) (hx : 1 ≤ x) :
    s2 + (K + 2) * i ≤ s + (K + 2) * (i + x) := by
  have := Nat.le_mul_of_pos_right K hx
  rw [Nat.mul_add, Nat.add_mul K 2 x]
  omega

/-- the round that finds nothing in the `n` bytes left -/
theorem last_round {K s s2 i n : Nat} (h : s2 ≤ s + 1 + n + K) :
    s2 + (K + 2) * i ≤ s + ((K + 2) * (i + n) + K + 1) := by
  have := Nat.le_mul_of_pos_left (n := K + 2) n (Nat.succ_pos _)
  rw [Nat.mul_add]
  omega

theorem runCost_le {K i1 len : Nat} {r : Option Nat} (h : ∀ a, r = some a → a + i1 < len) :
    runCost K i1 len r ≤ (K + 2) * len + K + 1 := by
  cases r with
  | none => exact Nat.le_refl _
  | some a =>
    exact Nat.le_trans (Nat.mul_le_mul_left _ (h a rfl))
      (Nat.le_trans (Nat.le_add_right _ K) (Nat.le_add_right _ 1))

theorem get?_eq (s : Slice) (i : Nat) :
    s.get? i = if i < s.len then some (s.getD i) else none := rfl

/-- What the loop does with the `byte1` that `memchr` found at `p`: the offset `p - index1`, which
puts the pair's first byte there, is answered if the second byte is in place too; in every other
case (three in the Rust) the scan goes on. -/
theorem aligned_spec {f : Finder} {hay : Slice} {index1 index2 p : Nat} {next : M (Option Nat)}
    {c : Ctr} {Q : Option Nat → Ctr → Prop}
    (hyes : ∀ a, a + index1 = p → a + index2 < hay.len → hay.getD (a + index2) = f.byte2 →
      Q (some a) c)
    (hno : (∀ a, a + index1 = p → a + index2 < hay.len → hay.getD (a + index2) ≠ f.byte2) →
      Holds next c Q) :
    Holds (if p < index1 then next else
      match hay.get? (p - index1 + index2) with
      | none => next
      | some b => if b != f.byte2 then next else pure (some (p - index1))) c Q := by
  refine Holds.ite (fun hsub => hno fun a ha => ?_) (fun hsub => ?_)
  · omega
  · obtain ⟨a, ha⟩ : ∃ a, a + index1 = p := ⟨_, Nat.sub_add_cancel (Nat.le_of_not_lt hsub)⟩
    have haligned : ∀ a', a' + index1 = p → a' = a := fun a' h =>
      Nat.add_right_cancel (h.trans ha.symm)
    rw [show p - index1 = a from Nat.sub_eq_of_eq_add ha.symm, get?_eq]
    by_cases hin : a + index2 < hay.len
    · rw [if_pos hin]
      refine Holds.ite (fun hb => hno fun a' ha' _ => ?_) (fun hb => ?_)
      · exact haligned a' ha' ▸ bne_iff_ne.mp hb
      · exact Holds.pure (hyes a ha hin (by simpa using hb))
    · rw [if_neg hin]
      exact hno fun a' ha' hin' => absurd (haligned a' ha' ▸ hin') hin

/-- The loop at `i`, with `n` bytes left.  Invariant: every candidate `q` has `i ≤ q + index1`
(its first byte has not been skipped).  The steps are counted in budget form, `K + 2` per byte
of the haystack passed. -/
theorem findPrefilterLoop_spec {memchr : UInt8 → Slice → M (Option Nat)} {K : Nat}
    (hm : MemchrOk memchr K) (f : Finder) (hay : Slice) (hv : hay.Valid)
    (index1 index2 i n : Nat) (c : Ctr) (hn : i + n = hay.len)
    (hinv : ∀ q, Cand f.byte1 f.byte2 index1 index2 hay q → i ≤ q + index1) :
    Holds (findPrefilterLoop memchr f hay index1 index2 i) c fun r c' =>
      PreRes f.byte1 f.byte2 index1 index2 hay r ∧
        c'.steps + (K + 2) * i ≤ c.steps + runCost K index1 hay.len r := by
  fun_induction findPrefilterLoop memchr f hay index1 index2 i generalizing c n with
  | case2 i hgt => exact absurd (hn ▸ Nat.le_add_right i n) hgt
  | case1 i hi ih =>
    have hlen : hay.len - i = n := Nat.sub_eq_of_eq_add (hn.symm.trans (Nat.add_comm i n))
    apply Holds.tick_bind
    apply Holds.drop_bind hi
    apply Holds.bind (Holds.of_val (hm f.byte1 _ _ (Slice.drop_valid hv hi)))
    rintro _ c2 ⟨rfl, hcost⟩
    replace hcost : c2.steps ≤ c.steps + 1 + scanned _ (hay.len - i) + K := hcost
    cases hfi : Spec.firstIdx (· == f.byte1) (Slice.toList ⟨hay.mem, hay.off + i, hay.len - i⟩) with
    | none =>
      have hno := Slice.firstIdx_drop_none hfi
      rw [hfi, hlen] at hcost
      exact Holds.pure ⟨fun q hq => hno (q + index1) (hinv q hq) hq.1 hq.2.1,
        hn ▸ last_round hcost⟩
    | some k =>
      obtain ⟨hk, hbyte, hfirst⟩ := Slice.firstIdx_drop_some hfi
      have hlt : i + k < hay.len := Nat.add_lt_of_lt_sub' hk
      obtain ⟨m, rfl⟩ := Nat.le.dest (Nat.lt_of_add_lt_add_left (hn ▸ hlt) : k + 1 ≤ n)
      rw [hfi] at hcost
      have hround : c2.steps + (K + 2) * i ≤ c.steps + (K + 2) * (i + k + 1) :=
        round_paid hcost (Nat.succ_pos k)
      -- every candidate starts at or after the byte found
      have hge : ∀ q, Cand f.byte1 f.byte2 index1 index2 hay q → i + k ≤ q + index1 := by
        intro q hq
        obtain ⟨d, hd⟩ := Nat.le.dest (hinv q hq)
        refine Nat.le_of_not_lt fun hlt => hfirst d (by omega) ?_
        rw [hd]
        exact hq.2.1
      refine aligned_spec (p := i + k) (fun a ha hin hb => ?_) (fun hno => ?_)
      · refine ⟨⟨⟨ha ▸ hlt, ha ▸ hbyte, hin, hb⟩, fun q hq => ?_⟩, ?_⟩
        · exact Nat.le_of_add_le_add_right (ha ▸ hge q hq)
        · rw [runCost, ha]
          exact hround
      · apply Holds.mono (ih k m c2 (by omega) fun q hq =>
          Nat.lt_of_le_of_ne (hge q hq) fun hqe => hno q hqe.symm hq.2.2.1 hq.2.2.2)
        exact fun r c' ⟨hres, hs⟩ => ⟨hres, budget_trans hround hs⟩
theorem specMemchr_ok : MemchrOk specMemchr 0 :=
  fun _ _ c _ => ⟨c, rfl, Nat.le_add_right _ _⟩

/-- `find_prefilter(haystack)` with the cost in terms of the answer: `K + 2` steps per byte up to
the byte that made the candidate (`index1` past the answer), or for the whole haystack -/
theorem findPrefilter_run {memchr : UInt8 → Slice → M (Option Nat)} {K : Nat}
    (hm : MemchrOk memchr K) (f : Finder) (hay : Slice) (hv : hay.Valid) (c : Ctr) :
    ∃ r c', findPrefilter memchr f hay c = .ok r c' ∧
      PreRes f.byte1 f.byte2 f.pair.index1.toNat f.pair.index2.toNat hay r ∧
      c'.steps ≤ c.steps + runCost K f.pair.index1.toNat hay.len r :=
  findPrefilterLoop_spec hm f hay hv f.pair.index1.toNat f.pair.index2.toNat 0 hay.len c
    (Nat.zero_add _) (fun _ _ => Nat.zero_le _)

/-- **C11 (exact form)** `find_prefilter(haystack)`, for every finder and every valid
haystack, given a correct `memchr`: no fault (`&haystack[i..]` never panics), the answer is the
least candidate offset (`None` iff there is none), and the cost is at most
`(K + 2) * haystack.len() + K + 1` steps. -/
theorem findPrefilter_correct {memchr : UInt8 → Slice → M (Option Nat)} {K : Nat}
    (hm : MemchrOk memchr K) (f : Finder) (hay : Slice) (hv : hay.Valid) (c : Ctr) :
    ∃ r c', findPrefilter memchr f hay c = .ok r c' ∧
      PreRes f.byte1 f.byte2 f.pair.index1.toNat f.pair.index2.toNat hay r ∧
      c'.steps ≤ c.steps + (K + 2) * hay.len + K + 1 := by
  obtain ⟨r, c', h1, h2, h3⟩ := findPrefilter_run hm f hay hv c
  have hr : runCost K f.pair.index1.toNat hay.len r ≤ (K + 2) * hay.len + K + 1 :=
    runCost_le fun a ha => (ha ▸ h2 : PreRes _ _ _ _ _ (some a)).1.1
  exact ⟨r, c', h1, h2, by omega⟩

/-- both offsets inside the needle are all `with_pair` needs (they need not differ) -/
theorem withPair_eq (needle : Slice) (p : Pair) (h1 : p.index1.toNat < needle.len)
    (h2 : p.index2.toNat < needle.len) (c : Ctr) :
    withPair needle p c =
      .ok (some ⟨p, needle.getD p.index1.toNat, needle.getD p.index2.toNat⟩) c := by
  rw [withPair, Slice.get_ok h1, pure_bind', Slice.get_ok h2, pure_bind']
  rfl

/-- `Finder::with_pair(needle, pair)` for a pair that is valid for the needle: `needle[index]`
does not panic. -/
theorem withPair_ok (needle : Slice) (p : Pair) (hp : p.ValidFor needle) (c : Ctr) :
    withPair needle p c =
      .ok (some ⟨p, needle.getD p.index1.toNat, needle.getD p.index2.toNat⟩) c :=
  withPair_eq needle p hp.lt1 hp.lt2 c

/-- `Finder::with_pair(needle, pair)` for ANY pair (e.g. one selected on another, longer
needle): it either builds the finder or panics on the bounds-checked `needle[index]`; it
panics exactly when an offset lies outside the needle, and in both cases the counter (hence
the load trace) is untouched: nothing outside the needle is ever read. -/
theorem withPair_total (needle : Slice) (p : Pair) (c : Ctr) :
    (p.index1.toNat < needle.len ∧ p.index2.toNat < needle.len ∧
      withPair needle p c =
        .ok (some ⟨p, needle.getD p.index1.toNat, needle.getD p.index2.toNat⟩) c) ∨
    ((¬ (p.index1.toNat < needle.len ∧ p.index2.toNat < needle.len)) ∧
      ∃ site, withPair needle p c = .fault (.panic site)) := by
  by_cases h1 : p.index1.toNat < needle.len
  · by_cases h2 : p.index2.toNat < needle.len
    · exact .inl ⟨h1, h2, withPair_eq needle p h1 h2 c⟩
    · refine .inr ⟨fun h => h2 h.2, "with_pair: needle[usize::from(pair.index2())]", ?_⟩
      rw [withPair, Slice.get_ok h1, pure_bind', Slice.get, if_neg h2]
      rfl
  · refine .inr ⟨fun h => h1 h.1, "with_pair: needle[usize::from(pair.index1())]", ?_⟩
    rw [withPair, Slice.get, if_neg h1]
    rfl

/-- `Finder::new(needle)`: `None` iff the needle is shorter than 2, no fault. -/
theorem Finder.new_correct (needle : Slice) (c : Ctr) :
    ∃ r c', Finder.new needle c = .ok r c' ∧ (r = none ↔ needle.len < 2) ∧
      (∀ f, r = some f → f.pair.ValidFor needle ∧
        f.byte1 = needle.getD f.pair.index1.toNat ∧ f.byte2 = needle.getD f.pair.index2.toNat) ∧
      c'.steps ≤ c.steps + min needle.len 255 := by
  obtain ⟨r, c', h1, h2, h3, h4, _⟩ := Pair.new_correct needle c
  rw [Finder.new, bind_ok h1]
  cases r with
  | none => exact ⟨none, c', rfl, iff_of_true rfl (h2.mp rfl), fun _ hf => (nomatch hf), h4⟩
  | some p =>
    have hp := (h3 p rfl).1
    refine ⟨_, c', withPair_ok needle p hp c', ?_, ?_, h4⟩
    · exact iff_of_false (Option.some_ne_none _) fun h => Option.some_ne_none _ (h2.mpr h)
    · rintro f ⟨⟩
      exact ⟨hp, rfl, rfl⟩

theorem cand_of_occAt {needle hay : Slice} (hvn : needle.Valid) (hvh : hay.Valid) {p : Pair}
    (hp : p.ValidFor needle) {q : Nat} (h : Spec.OccAt hay.toArray needle.toArray q) :
    Cand (needle.getD p.index1.toNat) (needle.getD p.index2.toNat) p.index1.toNat
      p.index2.toNat hay q := by
  obtain ⟨h1, h2⟩ := (Slice.occAt_iff_getD hvh hvn q).mp h
  have key : ∀ k, k < needle.len → q + k < hay.len ∧ hay.getD (q + k) = needle.getD k :=
    fun k hk => ⟨Nat.lt_of_lt_of_le (Nat.add_lt_add_left hk q) h1, h2 k hk⟩
  exact ⟨(key _ hp.lt1).1, (key _ hp.lt1).2, (key _ hp.lt2).1, (key _ hp.lt2).2⟩

/-- **C11** The portable packed-pair prefilter built by `Finder::with_pair(needle, pair)` from a
pair valid for the needle (as `Pair::new`, `Pair::with_ranker`, `Pair::with_indices` return),
run on any valid haystack, given a correct `memchr`:
(a) neither the construction nor the search faults;
(b) an answer `Some(a)` satisfies `hay[a + index1] = needle[index1]` and
    `hay[a + index2] = needle[index2]`, both in range;
(c) if the needle occurs at `q` the answer is `Some(a)` with `a <= q`; hence `None` implies
    that the needle does not occur;
(d) at most `(K + 2) * haystack.len() + K + 1` steps. -/
theorem findPrefilter_sound {memchr : UInt8 → Slice → M (Option Nat)} {K : Nat}
    (hm : MemchrOk memchr K) (needle hay : Slice) (hvn : needle.Valid) (hvh : hay.Valid)
    (p : Pair) (hp : p.ValidFor needle) (c : Ctr) :
    ∃ f r c', withPair needle p c = .ok (some f) c ∧
      findPrefilter memchr f hay c = .ok r c' ∧
      (∀ a, r = some a →
        a + p.index1.toNat < hay.len ∧
        hay.getD (a + p.index1.toNat) = needle.getD p.index1.toNat ∧
        a + p.index2.toNat < hay.len ∧
        hay.getD (a + p.index2.toNat) = needle.getD p.index2.toNat) ∧
      (∀ q, Spec.OccAt hay.toArray needle.toArray q → ∃ a, r = some a ∧ a ≤ q) ∧
      (r = none → ∀ q, ¬ Spec.OccAt hay.toArray needle.toArray q) ∧
      c'.steps ≤ c.steps + (K + 2) * hay.len + K + 1 := by
  obtain ⟨r, c', h1, h2, h3⟩ := findPrefilter_correct hm
    ⟨p, needle.getD p.index1.toNat, needle.getD p.index2.toNat⟩ hay hvh c
  have hle : ∀ q, Spec.OccAt hay.toArray needle.toArray q → ∃ a, r = some a ∧ a ≤ q :=
    fun q hq => h2.le_of_cand (cand_of_occAt hvn hvh hp hq)
  refine ⟨_, r, c', withPair_ok needle p hp c, h1, ?_, hle, ?_, h3⟩
  · rintro a rfl
    exact h2.1
  · rintro rfl q hq
    obtain ⟨a, ha, _⟩ := hle q hq
    cases ha

/-- the hypotheses of `findPrefilter_sound` are satisfiable: needle `"abcab"` with the pair
`(2, 0)` in the haystack `"xxabcabxx"` -/
example : ∃ f r c', withPair (Slice.ofMem ⟨1, 64, #[97, 98, 99, 97, 98]⟩) ⟨2, 0⟩ {} =
      .ok (some f) {} ∧
    findPrefilter specMemchr f (Slice.ofMem ⟨0, 4096, #[120, 120, 97, 98, 99, 97, 98, 120, 120]⟩)
      {} = .ok r c' ∧ (∀ q, Spec.OccAt
        (Slice.ofMem ⟨0, 4096, #[120, 120, 97, 98, 99, 97, 98, 120, 120]⟩).toArray
        (Slice.ofMem ⟨1, 64, #[97, 98, 99, 97, 98]⟩).toArray q → ∃ a, r = some a ∧ a ≤ q) := by
  obtain ⟨f, r, c', h1, h2, _, h4, _⟩ := findPrefilter_sound specMemchr_ok
    (Slice.ofMem ⟨1, 64, #[97, 98, 99, 97, 98]⟩)
    (Slice.ofMem ⟨0, 4096, #[120, 120, 97, 98, 99, 97, 98, 120, 120]⟩)
    (Slice.ofMem_valid _) (Slice.ofMem_valid _) ⟨2, 0⟩
    ⟨by decide, by decide, by decide⟩ {}
  exact ⟨f, r, c', h1, h2, h4⟩

end Memchr.Fallback
