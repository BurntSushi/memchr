/-
What the six operation machines of `Model/Memmem.lean` (`Finder.run`, `FinderRev.run`,
`Finder.runX`, `FinderRev.runX`, `FindIter.run`, `FindRevIter.run`) have in common, proved once.

* Ownership accounting (C17): `OwnOp`, `refAllocs`.
* They all recurse over the op list in the same way, so "every step refines the reference and
  pays `OwnOp.cost`" lifts to runs once (`run_refines`); an instance supplies its one-step lemma.
* An iterator state denotes the list of matches still to come: if one `next` yields the head of
  that list and moves to a state denoting its tail, then `k` calls yield its first `k` entries
  and then `None`s (`nexts_of_head_tail` for a reference machine, `nextsRun_of_head_tail` for the
  model, with the steps of the `k` calls), and the counting loop returns its length
  (`countLoop_of_head_tail`).
-/
import MemchrModel.Model.Memmem
import MemchrModel.Base.Run

namespace Memchr.Memmem

/-! ### ownership -/

/-- one allocation, unless the needle is empty -/
def allocCost (len : Nat) : Nat := if len = 0 then 0 else 1

/-- ownership after / allocations made by the three handle conversions -/
inductive OwnOp where
  | asRef | intoOwned | clone | other
  deriving Repr, DecidableEq

def OwnOp.next : Ownership → OwnOp → Ownership
  | _, .asRef => .borrowed
  | _, .intoOwned => .owned
  | o, .clone => o
  | o, .other => o

/-- `into_owned` of a borrowed needle and `clone` of an owned one allocate; nothing else does -/
def OwnOp.cost (len : Nat) : Ownership → OwnOp → Nat
  | .borrowed, .intoOwned => allocCost len
  | .owned, .clone => allocCost len
  | _, _ => 0

/-- the allocation count of an operation sequence: a function of the initial ownership, the
needle length and the operations alone -/
def refAllocs (len : Nat) : Ownership → List OwnOp → Nat
  | _, [] => 0
  | o, op :: ops => op.cost len o + refAllocs len (op.next o) ops

theorem OwnOp.cost_other (len : Nat) (o : Ownership) : OwnOp.cost len o .other = 0 := by
  cases o <;> rfl

theorem OwnOp.cost_asRef (len : Nat) (o : Ownership) : OwnOp.cost len o .asRef = 0 := by
  cases o <;> rfl

/-- **C17**: without `into_owned`, nothing that starts from a borrowed needle allocates -/
theorem refAllocs_borrowed (len : Nat) (ops : List OwnOp) (h : OwnOp.intoOwned ∉ ops) :
    refAllocs len .borrowed ops = 0 := by
  induction ops with
  | nil => rfl
  | cons op ops ih =>
    have h1 : op ≠ .intoOwned := fun e => h (e ▸ List.mem_cons_self)
    have h2 : OwnOp.intoOwned ∉ ops := fun e => h (List.mem_cons_of_mem _ e)
    cases op with
    | intoOwned => exact absurd rfl h1
    | _ => simpa [refAllocs, OwnOp.cost, OwnOp.next] using ih h2

/-- the empty needle never allocates -/
theorem refAllocs_empty (o : Ownership) (ops : List OwnOp) : refAllocs 0 o ops = 0 := by
  induction ops generalizing o with
  | nil => rfl
  | cons op ops ih =>
    simp only [refAllocs, ih, Nat.add_zero]
    cases o <;> cases op <;> rfl

/-- `next` ops of an iterator never allocate, whatever the ownership -/
theorem refAllocs_other (len : Nat) (o : Ownership) (k : Nat) :
    refAllocs len o (List.replicate k .other) = 0 := by
  induction k with
  | zero => rfl
  | succ k ih => rw [List.replicate_succ, refAllocs, OwnOp.cost_other, Nat.zero_add]; exact ih

/-! ### runs refine the reference when every step does -/

/-- what one step of an op machine owes its reference: it returns normally, keeps the invariant,
its observation followed by the reference outputs from the new abstract state is the reference
output from the old one, the ownership moves by `OwnOp.next` and the allocator is called
`OwnOp.cost` times -/
def StepRefines {Op σ ρ O : Type} (step : Op → σ → Heap → M (Option O × σ × Heap))
    (ref : List Op → ρ → List O) (Inv : σ → Prop) (abs : σ → ρ) (own : σ → Ownership)
    (opOwn : Op → OwnOp) (len : Nat) (op : Op) : Prop :=
  ∀ s h c, Inv s → ∃ o s' h' c', step op s h c = .ok (o, s', h') c' ∧ Inv s' ∧
    (∀ ops, o.toList ++ ref ops (abs s') = ref (op :: ops) (abs s)) ∧
    own s' = (opOwn op).next (own s) ∧ h'.allocs = h.allocs + (opOwn op).cost len (own s)

/-- `run_nil` / `run_cons` / `ref_nil` are the defining equations of the model's `run` and of
the reference (`rfl` at every instance: structure eta turns the model's
`let (o, s', h') ← step ..` into the projection form). -/
theorem run_refines {Op σ ρ O : Type} {step : Op → σ → Heap → M (Option O × σ × Heap)}
    {run : List Op → σ → Heap → M (List O × σ × Heap)} {ref : List Op → ρ → List O}
    (run_nil : ∀ s h, run [] s h = pure ([], s, h))
    (run_cons : ∀ op ops s h, run (op :: ops) s h =
      step op s h >>= fun r => run ops r.2.1 r.2.2 >>= fun q =>
        pure (r.1.toList ++ q.1, q.2.1, q.2.2))
    (ref_nil : ∀ r, ref [] r = [])
    {Inv : σ → Prop} {abs : σ → ρ} {own : σ → Ownership} {opOwn : Op → OwnOp} {len : Nat}
    (ops : List Op) (hstep : ∀ op ∈ ops, StepRefines step ref Inv abs own opOwn len op) :
    ∀ s h c, Inv s → ∃ s' h' c', run ops s h c = .ok (ref ops (abs s), s', h') c' ∧ Inv s' ∧
      h'.allocs = h.allocs + refAllocs len (own s) (ops.map opOwn) := by
  induction ops with
  | nil =>
    intro s h c hs
    exact ⟨s, h, c, by rw [run_nil, ref_nil]; rfl, hs, rfl⟩
  | cons op ops ih =>
    intro s h c hs
    obtain ⟨o, s1, h1, c1, e1, hs1, hout, hown, hal⟩ := hstep op List.mem_cons_self s h c hs
    obtain ⟨s', h', c', e', hs', hal'⟩ :=
      ih (fun o ho => hstep o (List.mem_cons_of_mem _ ho)) s1 h1 c1 hs1
    refine ⟨s', h', c', ?_, hs', ?_⟩
    · rw [run_cons, bind_ok e1, bind_ok e', ← hout]; rfl
    · rw [hal', hal, hown, List.map_cons, refAllocs, Nat.add_assoc]

/-! ### an iterator state denotes the list still to come -/

theorem getElem?_range_succ {α β : Type} (l : List α) (g : Option α → β) (k : Nat) :
    (List.range (k + 1)).map (fun i => g l[i]?) =
      g l.head? :: (List.range k).map (fun i => g l.tail[i]?) := by
  rw [List.range_succ_eq_map, List.map_cons, List.map_map]
  cases l <;> rfl

/-- reference level: if one `next` of a reference machine emits the head of `rest` and moves to a
state denoting the tail, `k` of them emit `rest[0]?, .., rest[k-1]?` -/
theorem nexts_of_head_tail {ρ : Type} {ref : List IterOp → ρ → List Out} {rest : ρ → List Nat}
    {Inv : ρ → Prop} (ref_nil : ∀ r, ref [] r = [])
    (hnext : ∀ r, Inv r → ∃ r', Inv r' ∧ rest r' = (rest r).tail ∧
      ∀ ops, ref (.next :: ops) r = .idx (rest r).head? :: ref ops r') (k : Nat) :
    ∀ r, Inv r → ref (List.replicate k .next) r =
      (List.range k).map (fun i => Out.idx ((rest r)[i]?)) := by
  induction k with
  | zero => intro r _; exact ref_nil r
  | succ k ih =>
    intro r hr
    obtain ⟨r', hr', ht, he⟩ := hnext r hr
    rw [List.replicate_succ, he, ih r' hr', ht, getElem?_range_succ]

/-- model level: `k` calls of `next` emit `rest[0]?, .., rest[k-1]?` and leave the heap alone, and
their steps telescope.  `Φ` is the potential the `Some` answers are paid from, `C` the constant
each call may cost on top, `D` the budget of a `None` answer, of which there are
`k - rest.length`; `Paid` says of a state that the step bound of its `next` applies.  `run_nil` /
`run_cons` / `step_next` are the defining equations of the model's op machine (`rfl` at both
instances). -/
theorem nextsRun_of_head_tail {σ : Type} {next : σ → M (Option Nat × σ)}
    {step : IterOp → σ → Heap → M (Option Out × σ × Heap)}
    {run : List IterOp → σ → Heap → M (List Out × σ × Heap)}
    (run_nil : ∀ s h, run [] s h = pure ([], s, h))
    (run_cons : ∀ op ops s h, run (op :: ops) s h =
      step op s h >>= fun r => run ops r.2.1 r.2.2 >>= fun q =>
        pure (r.1.toList ++ q.1, q.2.1, q.2.2))
    (step_next : ∀ s h, step .next s h = next s >>= fun x => pure (some (.idx x.1), x.2, h))
    {rest : σ → List Nat} {Inv Paid : σ → Prop} {Φ : σ → Nat} {C D : Nat}
    (hnext : ∀ s c, Inv s → ∃ s' c', next s c = .ok ((rest s).head?, s') c' ∧ Inv s' ∧
      rest s' = (rest s).tail ∧ (Paid s → Paid s' ∧
        c'.steps + Φ s' ≤ c.steps + Φ s + match (rest s).head? with
          | none => D
          | some _ => C)) (k : Nat) :
    ∀ s h c, Inv s → ∃ s' c', run (List.replicate k .next) s h c =
        .ok ((List.range k).map (fun i => Out.idx (rest s)[i]?), s', h) c' ∧ Inv s' ∧
      (Paid s → c'.steps + Φ s' ≤ c.steps + Φ s + D * (k - (rest s).length) + C * k) := by
  induction k with
  | zero =>
    intro s h c hs
    exact ⟨s, c, by rw [List.replicate_zero, run_nil]; rfl, hs, fun _ => by
      rw [Nat.zero_sub, Nat.mul_zero, Nat.mul_zero]; exact Nat.le_refl _⟩
  | succ k ih =>
    intro s h c hs
    obtain ⟨s1, c1, e1, hs1, ht, hp1⟩ := hnext s c hs
    obtain ⟨s', c', e', hs', hp'⟩ := ih s1 h c1 hs1
    have e : step .next s h c = .ok (some (.idx (rest s).head?), s1, h) c1 := by
      rw [step_next, bind_ok e1]; rfl
    rw [ht] at e' hp'
    refine ⟨s', c', ?_, hs', fun hp => ?_⟩
    · rw [List.replicate_succ, run_cons, bind_ok e, bind_ok e', getElem?_range_succ]; rfl
    · obtain ⟨hp1, hk1⟩ := hp1 hp
      have hk' := hp' hp1
      rw [Nat.mul_succ]
      cases hl : rest s with
      | nil =>
        -- a `None` answer, as are all the `k` after it
        rw [hl] at hk1 hk'
        rw [List.length_nil, Nat.sub_zero, Nat.mul_succ]
        rw [List.tail_nil, List.length_nil, Nat.sub_zero] at hk'
        dsimp only [List.head?_nil] at hk1
        omega
      | cons a l =>
        -- a `Some` answer: the `None`s are those among the `k` calls after it
        rw [hl] at hk1 hk'
        rw [List.length_cons, Nat.add_sub_add_right]
        rw [List.tail_cons] at hk'
        dsimp only [List.head?_cons] at hk1
        generalize D * (k - l.length) = dn at hk' ⊢
        omega

/-- model level: the same step property makes the counting loop return the length of `rest`;
`loop_none` / `loop_some` are the defining equations of the loop -/
theorem countLoop_of_head_tail {σ : Type} {next : σ → M (Option Nat × σ)}
    {loop : Nat → σ → Nat → M Nat} {rest : σ → List Nat} {Inv : σ → Prop}
    (loop_none : ∀ fuel s acc c s' c', next s c = .ok (none, s') c' →
      loop (fuel + 1) s acc c = .ok acc c')
    (loop_some : ∀ fuel s acc c a s' c', next s c = .ok (some a, s') c' →
      loop (fuel + 1) s acc c = loop fuel s' (acc + 1) c')
    (hnext : ∀ s c, Inv s → ∃ s' c', next s c = .ok ((rest s).head?, s') c' ∧ Inv s' ∧
      rest s' = (rest s).tail) :
    ∀ (fuel : Nat) (s : σ) (acc : Nat) (c : Ctr), Inv s → (rest s).length < fuel →
      ∃ c', loop fuel s acc c = .ok (acc + (rest s).length) c' := by
  intro fuel
  induction fuel with
  | zero => intro s acc c _ hf; exact absurd hf (Nat.not_lt_zero _)
  | succ fuel ih =>
    intro s acc c hs hf
    obtain ⟨s', c1, e, hs', ht⟩ := hnext s c hs
    cases hl : rest s with
    | nil => rw [hl] at e; exact ⟨c1, loop_none fuel s acc c s' c1 e⟩
    | cons a l =>
      rw [hl] at e ht hf
      obtain ⟨c', e'⟩ := ih s' (acc + 1) c1 hs' (by rw [ht]; exact Nat.lt_of_succ_lt_succ hf)
      refine ⟨c', ?_⟩
      rw [loop_some fuel s acc c a s' c1 e, e', ht, List.tail_cons, List.length_cons,
        Nat.add_assoc, Nat.add_comm 1]

end Memchr.Memmem
