/-
C13 for the byte search: the dispatched `memchr` / `memrchr` / `memchr2` / ... of every configuration
takes at most `scanned + 2` steps, where `scanned` is the number of bytes between the end the search
starts from and the answer (inclusive), or the haystack length when there is no answer.  These are
`Api.sliceFind_fwd_run` / `sliceFind_rev_run` at the backend `select` picks.
-/
import MemchrModel.Proofs.MemchrApi

namespace Memchr.Cost

open Api

/-- **`Cost.memchr`.**  `memchr` / `memchr2` / `memchr3` of every build + CPU configuration
(every backend: the generic vector routine on SSE2 / AVX2 / NEON / simd128 including the wrappers'
byte loops, and SWAR), every needle set and every valid haystack: returns the first needle byte's
index without a fault in at most `scanned + 2` steps, `scanned` = index + 1, or the haystack
length when there is none. -/
theorem memchr (cfg : Cfg) (ns : Needles) (hay : Slice) (hv : hay.Valid) (c : Ctr) :
    ∃ c', Api.memchr cfg ns false hay c = .ok (specIdx ns false hay) c' ∧
      c'.steps ≤ c.steps + scannedFwd (specIdx ns false hay) hay.len + 2 := by
  rw [memchr_eq_select]
  exact sliceFind_fwd_run (select cfg) ns hay hv c

/-- **`Cost.memrchr`.**  The reverse searches, likewise: at most `scanned + 2` steps, `scanned` =
haystack length - index of the answer, or the haystack length when there is none. -/
theorem memrchr (cfg : Cfg) (ns : Needles) (hay : Slice) (hv : hay.Valid) (c : Ctr) :
    ∃ c', Api.memchr cfg ns true hay c = .ok (specIdx ns true hay) c' ∧
      c'.steps ≤ c.steps + scannedRev (specIdx ns true hay) hay.len + 2 := by
  rw [memchr_eq_select]
  exact sliceFind_rev_run (select cfg) ns hay hv c

/-- both directions, weaker form: at most `haystack.len() + 2` steps -/
theorem memchr_le_len (cfg : Cfg) (ns : Needles) (rev : Bool) (hay : Slice) (hv : hay.Valid)
    (c : Ctr) :
    ∃ c', Api.memchr cfg ns rev hay c = .ok (specIdx ns rev hay) c' ∧
      c'.steps ≤ c.steps + hay.len + 2 := by
  cases rev with
  | false =>
    obtain ⟨c', e, h⟩ := memchr cfg ns hay hv c
    have : scannedFwd (specIdx ns false hay) hay.len ≤ hay.len :=
      Fallback.scanned_le (Nat.le_refl _) fun _ => specIdx_lt
    exact ⟨c', e, by omega⟩
  | true =>
    obtain ⟨c', e, h⟩ := memrchr cfg ns hay hv c
    have := scannedRev_le (specIdx ns true hay) hay.len
    exact ⟨c', e, by omega⟩

end Memchr.Cost

#print axioms Memchr.Cost.memchr
#print axioms Memchr.Cost.memrchr
