/-
Nat-level facts about the bit loops of `Model/Sensible.lean` (`tz`, `bitLen`, `lz`,
`popcount`, `msbMask`) phrased through `Nat.testBit`, plus the two bit tricks used by the
move masks (`m & (m - 1)` and `!((1 << n) - 1)`), for every word width.
-/
import MemchrModel.Model.Sensible

namespace Memchr.Bits

theorem ne_zero_of_testBit {n j : Nat} (h : n.testBit j = true) : n ≠ 0 :=
  Nat.ne_of_gt (Nat.lt_of_lt_of_le (Nat.two_pow_pos j) (Nat.ge_two_pow_of_testBit h))

theorem lt_of_testBit {n w j : Nat} (hn : n < 2 ^ w) (h : n.testBit j = true) : j < w :=
  (Nat.pow_lt_pow_iff_right (by decide)).mp (Nat.lt_of_le_of_lt (Nat.ge_two_pow_of_testBit h) hn)

theorem tz_spec (w : Nat) : ∀ n : Nat, (∃ i, i < w ∧ n.testBit i = true) →
    n.testBit (tz w n) = true ∧ ∀ j, j < tz w n → n.testBit j = false := by
  induction w with
  | zero => exact fun n ⟨i, hi, _⟩ => absurd hi (Nat.not_lt_zero i)
  | succ w ih =>
    intro n ⟨i, hi, hb⟩
    by_cases h1 : n % 2 = 1
    · have e : tz (w + 1) n = 0 := if_pos (beq_iff_eq.mpr h1)
      rw [e, Nat.testBit_zero]
      exact ⟨decide_eq_true h1, fun j hj => absurd hj (Nat.not_lt_zero j)⟩
    · have e : tz (w + 1) n = 1 + tz w (n / 2) := if_neg (fun h => h1 (beq_iff_eq.mp h))
      rw [e, Nat.add_comm]
      cases i with
      | zero => exact absurd (of_decide_eq_true (Nat.testBit_zero .. ▸ hb)) h1
      | succ i' =>
        rw [Nat.testBit_add_one] at hb
        obtain ⟨ht, hl⟩ := ih (n / 2) ⟨i', Nat.lt_of_succ_lt_succ hi, hb⟩
        refine ⟨by rw [Nat.testBit_add_one]; exact ht, fun j hj => ?_⟩
        cases j with
        | zero => rw [Nat.testBit_zero]; exact decide_eq_false h1
        | succ j => rw [Nat.testBit_add_one]; exact hl j (Nat.lt_of_succ_lt_succ hj)

/-! ### `bitLen` / `lz`: `bitLen n` is `Nat.log2 n + 1` for `n ≠ 0` -/

theorem bitLen_zero : bitLen 0 = 0 := by
  unfold bitLen; simp

theorem bitLen_of_ne {n : Nat} (h : n ≠ 0) : bitLen n = 1 + bitLen (n / 2) := by
  rw [bitLen]; simp [h]

theorem bitLen_eq_log2 {n : Nat} (h : n ≠ 0) : bitLen n = n.log2 + 1 := by
  induction n using Nat.strongRecOn with
  | _ n ih =>
    rw [bitLen_of_ne h, Nat.log2_def, Nat.add_comm]
    by_cases h2 : 2 ≤ n
    · rw [if_pos h2, ih (n / 2) (Nat.div_lt_self (Nat.pos_of_ne_zero h) (by decide))
        (Nat.ne_of_gt (Nat.div_pos h2 (by decide)))]
    · obtain rfl : n = 1 := by omega
      rw [if_neg h2, bitLen_zero]

theorem lt_two_pow_bitLen (n : Nat) : n < 2 ^ bitLen n := by
  by_cases h : n = 0
  · subst h; exact Nat.two_pow_pos _
  · exact bitLen_eq_log2 h ▸ Nat.lt_log2_self

theorem bitLen_le_of_lt (w n : Nat) (hn : n < 2 ^ w) : bitLen n ≤ w := by
  by_cases h : n = 0
  · subst h; rw [bitLen_zero]; exact Nat.zero_le w
  · exact bitLen_eq_log2 h ▸ (Nat.log2_lt h).mpr hn

theorem lz_add_bitLen {w n : Nat} (hn : n < 2 ^ w) : lz w n + bitLen n = w :=
  Nat.sub_add_cancel (bitLen_le_of_lt w n hn)

theorem bitLen_spec {n : Nat} (h : n ≠ 0) :
    ∃ t, bitLen n = t + 1 ∧ n.testBit t = true ∧ ∀ j, t < j → n.testBit j = false :=
  ⟨n.log2, bitLen_eq_log2 h, Nat.testBit_log2 h, fun _ hj => Nat.testBit_lt_two_pow
    (Nat.lt_of_lt_of_le Nat.lt_log2_self (Nat.pow_le_pow_right (by decide) hj))⟩

theorem popcount_zero : popcount 0 = 0 := by
  unfold popcount; simp

theorem popcount_step (n : Nat) : popcount n = n % 2 + popcount (n / 2) := by
  by_cases h : n = 0
  · subst h; simp [popcount_zero]
  · rw [popcount]; simp [h]

theorem popcount_eq (w : Nat) : ∀ n : Nat, n < 2 ^ w →
    popcount n = ((List.range w).filter (fun i => n.testBit i)).length := by
  induction w with
  | zero =>
    intro n hn
    obtain rfl : n = 0 := Nat.lt_one_iff.mp hn
    exact popcount_zero
  | succ w ih =>
    intro n hn
    have hn2 : n / 2 < 2 ^ w := Nat.div_lt_of_lt_mul (Nat.pow_succ' ▸ hn)
    have hfun : ((fun i => n.testBit i) ∘ Nat.succ) = (fun i => (n / 2).testBit i) := by
      funext i; simp [Function.comp, Nat.testBit_add_one]
    rw [popcount_step, ih (n / 2) hn2, List.range_succ_eq_map, List.filter_cons,
      List.filter_map, hfun]
    rcases Nat.mod_two_eq_zero_or_one n with h0 | h1
    · simp [Nat.testBit_zero, h0]
    · simp [Nat.testBit_zero, h1, Nat.add_comm]

theorem shr7_le_one (x : UInt8) : (x >>> 7).toNat ≤ 1 := by
  rw [UInt8.toNat_shiftRight]
  show x.toNat >>> 7 ≤ 1
  rw [Nat.shiftRight_eq_div_pow]
  exact Nat.le_of_lt_succ (Nat.div_lt_of_lt_mul x.toNat_lt)

theorem msbMask_lt (v : List UInt8) : msbMask v < 2 ^ v.length := by
  induction v with
  | nil => exact Nat.one_pos
  | cons x xs ih =>
    have := shr7_le_one x
    simp only [msbMask, List.length_cons, Nat.pow_succ]
    omega

/-- bit `i` of the movemask is the top bit of lane `i` -/
theorem msbMask_testBit (v : List UInt8) : ∀ i : Nat,
    (msbMask v).testBit i = (match v[i]? with | some x => (x >>> 7) == 1 | none => false) := by
  induction v with
  | nil => intro i; simp [msbMask]
  | cons x xs ih =>
    intro i
    have hx : (x >>> 7).toNat < 2 := Nat.lt_succ_of_le (shr7_le_one x)
    cases i with
    | zero =>
      rw [msbMask, Nat.testBit_zero, Nat.add_mul_mod_self_left, Nat.mod_eq_of_lt hx]
      exact decide_eq_decide.mpr (UInt8.toNat_inj (b := 1))
    | succ i =>
      rw [msbMask, Nat.testBit_add_one, Nat.add_mul_div_left _ _ (Nat.succ_pos 1),
        Nat.div_eq_of_lt hx, Nat.zero_add]
      exact ih i

theorem top_bit_of_bool (x : UInt8) (h : x = 0x00 ∨ x = 0xFF) :
    ((x >>> 7) == 1) = (x == 0xFF) := by
  rcases h with h | h <;> subst h <;> decide

theorem msbMask_testBit_bool (v : List UInt8) (hb : ∀ x ∈ v, x = 0x00 ∨ x = 0xFF) (i : Nat) :
    (msbMask v).testBit i = (v[i]? == some 0xFF) := by
  rw [msbMask_testBit]
  cases hv : v[i]? with
  | none => simp
  | some x =>
    have hx : x ∈ v := List.mem_of_getElem? hv
    simp only [top_bit_of_bool x (hb x hx)]
    simp

theorem pred_of_odd {n : Nat} (h : n % 2 = 1) : (n - 1) % 2 = 0 ∧ (n - 1) / 2 = n / 2 := by
  cases n with
  | zero => exact absurd h (by decide)
  | succ m =>
    rw [Nat.succ_div_of_mod_ne_zero (by rw [h]; decide), Nat.add_sub_cancel]
    refine ⟨(Nat.mod_two_eq_zero_or_one m).resolve_right (fun h1 => ?_), rfl⟩
    rw [Nat.add_mod, h1] at h
    exact absurd h (by decide)

theorem pred_div_two_of_even {n : Nat} (h : n % 2 = 0) : (n - 1) / 2 = n / 2 - 1 := by
  cases n with
  | zero => rfl
  | succ m => rw [Nat.succ_div_of_mod_eq_zero h, Nat.add_sub_cancel, Nat.add_sub_cancel]

/-- `n &&& (n - 1)` clears exactly the lowest set bit `k` of `n`. -/
theorem and_pred_testBit (k : Nat) : ∀ n : Nat, n.testBit k = true →
    (∀ j, j < k → n.testBit j = false) →
    ∀ i, (n &&& (n - 1)).testBit i = (n.testBit i && (i != k)) := by
  induction k with
  | zero =>
    intro n hk _ i
    have h1 : n % 2 = 1 := of_decide_eq_true (Nat.testBit_zero .. ▸ hk)
    rw [Nat.testBit_and]
    cases i with
    | zero =>
      rw [Nat.testBit_zero (n - 1), (pred_of_odd h1).1]
      exact (Bool.and_false _).trans (Bool.and_false _).symm
    | succ i =>
      rw [Nat.testBit_add_one, Nat.testBit_add_one, (pred_of_odd h1).2, Bool.and_self]
      exact (Bool.and_true _).symm
  | succ k ih =>
    intro n hk hl i
    have h0 : n % 2 = 0 := (Nat.mod_two_eq_zero_or_one n).resolve_right
      (of_decide_eq_false (Nat.testBit_zero .. ▸ hl 0 (Nat.succ_pos k)))
    rw [Nat.testBit_add_one] at hk
    cases i with
    | zero =>
      rw [Nat.testBit_and, hl 0 (Nat.succ_pos k)]
      rfl
    | succ i =>
      have hl' : ∀ j, j < k → (n / 2).testBit j = false := fun j hj =>
        Nat.testBit_add_one .. ▸ hl (j + 1) (Nat.succ_lt_succ hj)
      have := ih (n / 2) hk hl' i
      rw [Nat.testBit_and] at this
      rw [Nat.testBit_and, Nat.testBit_add_one, Nat.testBit_add_one, pred_div_two_of_even h0, this]
      simp

theorem not_low_mask_testBit (w n i : Nat) (hn : n ≤ w) :
    (2 ^ w - 1 - (2 ^ n - 1)).testBit i = (decide (i < w) && decide (n ≤ i)) := by
  have hlt : 2 ^ n - 1 < 2 ^ w :=
    Nat.lt_of_lt_of_le (Nat.sub_lt (Nat.two_pow_pos n) Nat.one_pos)
      (Nat.pow_le_pow_right (by decide) hn)
  rw [Nat.sub_sub, Nat.add_comm 1, Nat.testBit_two_pow_sub_succ hlt, Nat.testBit_two_pow_sub_one,
    ← decide_not]
  simp only [Nat.not_lt]

/-- and-ing a `w`-bit word with `!((1 << n) - 1)` keeps exactly its bits at positions `≥ n` -/
theorem and_not_low_mask_testBit {w x : Nat} (hx : x < 2 ^ w) (n i : Nat) (hn : n ≤ w) :
    (x &&& (2 ^ w - 1 - (2 ^ n - 1))).testBit i = (x.testBit i && decide (n ≤ i)) := by
  rw [Nat.testBit_and, not_low_mask_testBit w n i hn]
  by_cases hi : i < w
  · rw [decide_eq_true hi, Bool.true_and]
  · rw [Nat.testBit_lt_two_pow
      (Nat.lt_of_lt_of_le hx (Nat.pow_le_pow_right (by decide) (Nat.le_of_not_lt hi)))]
    rfl

end Memchr.Bits
