/-
C16 / C17 for the public substring API.  Each of the four op machines of `Model/Memmem.lean`
(`Finder.run`, `FinderRev.run`, `FindIter.run`, `FindRevIter.run`) run on a list of operations
produces exactly the outputs of a pure reference machine over the specification (`refFinder`,
`refFinderRev`, `refFwd`, `refRev`), whatever the interleaving of `clone` / `into_owned` / `as_ref`
(C16) and whatever the prefilter state (C10), and the allocation count is `refAllocs` (C17): one
step lemma per machine, lifted to runs by `run_refines` (`Proofs/OpSim.lean`).  What a `find` or a
`next` returns is `Proofs/MemmemFinder.lean` / `Proofs/MemmemIter.lean`; what is added here is the
ownership of the needle.
-/
import MemchrModel.Proofs.MemmemIter

namespace Memchr.Memmem

/-! ### ownership: `CowBytes`, the heap -/

theorem Heap.boxFrom_spec (h : Heap) (b : Slice) (hb : b.Valid) :
    (h.boxFrom b).1.Valid ∧ (h.boxFrom b).1.toList = b.toList ∧
    (h.boxFrom b).2.allocs = h.allocs + (if b.len = 0 then 0 else 1) := by
  have hval : (⟨⟨b.mem.region, h.next, b.toArray⟩, 0, b.len⟩ : Slice).Valid :=
    Nat.le_of_eq ((Nat.zero_add _).trans (Slice.toArray_size hb).symm)
  have hlist : (⟨⟨b.mem.region, h.next, b.toArray⟩, 0, b.len⟩ : Slice).toList = b.toList :=
    List.map_congr_left fun i hi => by
      simp only [Slice.getD, Nat.zero_add, Slice.toArray_getElem? hb i (List.mem_range.mp hi),
        Option.getD_some]
  unfold Heap.boxFrom
  split
  · exact ⟨hval, hlist, rfl⟩
  · exact ⟨hval, hlist, rfl⟩

theorem CowBytes.intoOwned_spec {n0 : Slice} {c : CowBytes} (hc : c.Holds n0) (h : Heap) :
    (c.intoOwned h).1.Holds n0 ∧ (c.intoOwned h).1.own = .owned ∧
    (c.intoOwned h).2.allocs = h.allocs + OwnOp.cost n0.len c.own .intoOwned := by
  obtain ⟨a1, a2, a3⟩ := Heap.boxFrom_spec h c.bytes hc.1
  unfold CowBytes.intoOwned
  cases ho : c.own with
  | borrowed => exact ⟨⟨a1, a2.trans hc.2⟩, rfl, by rw [a3, hc.len_eq]; rfl⟩
  | owned => exact ⟨hc, rfl, rfl⟩

theorem CowBytes.clone_spec {n0 : Slice} {c : CowBytes} (hc : c.Holds n0) (h : Heap) :
    (c.clone h).1.Holds n0 ∧ (c.clone h).1.own = c.own ∧
    (c.clone h).2.allocs = h.allocs + OwnOp.cost n0.len c.own .clone := by
  obtain ⟨a1, a2, a3⟩ := Heap.boxFrom_spec h c.bytes hc.1
  unfold CowBytes.clone
  cases ho : c.own with
  | borrowed => exact ⟨hc, ho, rfl⟩
  | owned => exact ⟨⟨a1, a2.trans hc.2⟩, rfl, by rw [a3, hc.len_eq]; rfl⟩

/-! ### C16 / C17: the `Finder` / `FinderRev` op machines against their references -/

/-- reference outputs of a `Finder` op sequence: a function of the needle bytes and the ops -/
def refFinder (x : Array UInt8) : List FinderOp → List Out
  | [] => []
  | .find hay :: ops => .idx (Spec.leftmost hay.toArray x) :: refFinder x ops
  | .needle :: ops => .bytes x :: refFinder x ops
  | .asRef :: ops => refFinder x ops
  | .intoOwned :: ops => refFinder x ops
  | .clone :: ops => refFinder x ops

/-- reference outputs of a `FinderRev` op sequence (`find` is `rfind`): a function of the needle
bytes and the ops -/
def _root_.Memchr.Bridge3.refFinderRev (x : Array UInt8) : List FinderOp → List Out
  | [] => []
  | .find hay :: ops => .idx (Spec.rightmost hay.toArray x) :: refFinderRev x ops
  | .needle :: ops => .bytes x :: refFinderRev x ops
  | .asRef :: ops => refFinderRev x ops
  | .intoOwned :: ops => refFinderRev x ops
  | .clone :: ops => refFinderRev x ops

def FinderOp.own : FinderOp → OwnOp
  | .asRef => .asRef
  | .intoOwned => .intoOwned
  | .clone => .clone
  | _ => .other

/-- the haystack of a `find` op is a valid slice -/
def FinderOp.Ok : FinderOp → Prop
  | .find hay => hay.Valid
  | _ => True

theorem Finder.step_refines (cfg : Api.Cfg) {n0 : Slice} (hn0 : n0.Valid) {op : FinderOp}
    (hop : op.Ok) :
    StepRefines (Finder.step cfg) (fun ops (_ : Unit) => refFinder n0.toArray ops)
      (Finder.GoodFor n0) (fun _ => ()) (fun f => f.needle.own) FinderOp.own n0.len op := by
  intro f h c hg
  have ⟨hn, hs⟩ := hg
  cases op with
  | find hay =>
    obtain ⟨c1, h1, _⟩ := Finder.find_run cfg hg hn0 hay hop c
    exact ⟨_, f, h, c1, bind_ok h1, hg, fun _ => rfl, rfl, (OwnOp.cost_other _ _).symm ▸ rfl⟩
  | asRef =>
    exact ⟨none, f.asRef, h, c, rfl, hg, fun _ => rfl, rfl, (OwnOp.cost_asRef _ _).symm ▸ rfl⟩
  | intoOwned =>
    obtain ⟨a, d, e⟩ := CowBytes.intoOwned_spec hn h
    exact ⟨none, _, _, c, rfl, ⟨a, hs⟩, fun _ => rfl, d, e⟩
  | clone =>
    obtain ⟨a, d, e⟩ := CowBytes.clone_spec hn h
    exact ⟨none, _, _, c, rfl, ⟨a, hs⟩, fun _ => rfl, d, e⟩
  | needle =>
    exact ⟨some (.bytes f.needleSlice.toArray), f, h, c, rfl, hg,
      fun _ => by rw [show f.needleSlice.toArray = _ from hn.toArray_eq hn0]; rfl, rfl,
      (OwnOp.cost_other _ _).symm ▸ rfl⟩

/-- **C16 + C17 (+ C03, C10).** Any operation sequence on a finder built for the bytes of `n0`
returns normally; its observations are `refFinder` (every `find` is the leftmost occurrence in
its own haystack, whatever was searched before; `needle()` is the construction bytes; `as_ref`,
`clone`, `into_owned` are invisible), and the allocator is called exactly `refAllocs` times. -/
theorem Finder.run_ok (cfg : Api.Cfg) (n0 : Slice) (hn0 : n0.Valid) (ops : List FinderOp)
    (hops : ∀ op ∈ ops, op.Ok) (f : Finder) (hg : f.GoodFor n0) (h : Heap) (c : Ctr) :
    ∃ f' h' c', Finder.run cfg ops f h c = .ok (refFinder n0.toArray ops, f', h') c' ∧
      f'.GoodFor n0 ∧
      h'.allocs = h.allocs + refAllocs n0.len f.needle.own (ops.map FinderOp.own) :=
  run_refines (fun _ _ => rfl) (fun _ _ _ _ => rfl) (fun _ => rfl) ops
    (fun op ho => Finder.step_refines cfg hn0 (hops op ho)) f h c hg

theorem FinderRev.step_refines (cfg : Api.Cfg) {n0 : Slice} (hn0 : n0.Valid) {op : FinderOp}
    (hop : op.Ok) :
    StepRefines (FinderRev.step cfg) (fun ops (_ : Unit) => Bridge3.refFinderRev n0.toArray ops)
      (FinderRev.GoodFor n0) (fun _ => ()) (fun f => f.needle.own) FinderOp.own n0.len op := by
  intro f h c hg
  have ⟨hn, hs⟩ := hg
  cases op with
  | find hay =>
    obtain ⟨c1, h1, _⟩ := FinderRev.rfind_run cfg hg hn0 hay hop c
    exact ⟨_, f, h, c1, bind_ok h1, hg, fun _ => rfl, rfl, (OwnOp.cost_other _ _).symm ▸ rfl⟩
  | asRef =>
    exact ⟨none, f.asRef, h, c, rfl, hg, fun _ => rfl, rfl, (OwnOp.cost_asRef _ _).symm ▸ rfl⟩
  | intoOwned =>
    obtain ⟨a, d, e⟩ := CowBytes.intoOwned_spec hn h
    exact ⟨none, _, _, c, rfl, ⟨a, hs⟩, fun _ => rfl, d, e⟩
  | clone =>
    obtain ⟨a, d, e⟩ := CowBytes.clone_spec hn h
    exact ⟨none, _, _, c, rfl, ⟨a, hs⟩, fun _ => rfl, d, e⟩
  | needle =>
    exact ⟨some (.bytes f.needleSlice.toArray), f, h, c, rfl, hg,
      fun _ => by rw [show f.needleSlice.toArray = _ from hn.toArray_eq hn0]; rfl, rfl,
      (OwnOp.cost_other _ _).symm ▸ rfl⟩

/-- the same for a reverse finder and `refFinderRev` -/
theorem FinderRev.run_ok (cfg : Api.Cfg) (n0 : Slice) (hn0 : n0.Valid) (ops : List FinderOp)
    (hops : ∀ op ∈ ops, op.Ok) (f : FinderRev) (hg : f.GoodFor n0) (h : Heap) (c : Ctr) :
    ∃ f' h' c', FinderRev.run cfg ops f h c =
        .ok (Bridge3.refFinderRev n0.toArray ops, f', h') c' ∧
      f'.GoodFor n0 ∧
      h'.allocs = h.allocs + refAllocs n0.len f.needle.own (ops.map FinderOp.own) :=
  run_refines (fun _ _ => rfl) (fun _ _ _ _ => rfl) (fun _ => rfl) ops
    (fun op ho => FinderRev.step_refines cfg hn0 (hops op ho)) f h c hg

/-- **C16 + C17 + C03 for a `FinderBuilder` finder**: build, then any operation
sequence: observations `refFinder`, allocations `refAllocs` from a borrowed needle. -/
theorem C16.finder_run_all (cfg : Api.Cfg) (b : FinderBuilder) (rank : UInt8 → UInt8)
    (needle : Slice) (hn : needle.Valid) (ops : List FinderOp) (hops : ∀ op ∈ ops, op.Ok)
    (h : Heap) (c : Ctr) :
    ∃ f' h' c', (b.buildForwardWithRanker cfg rank needle >>= fun f => Finder.run cfg ops f h) c =
        .ok (refFinder needle.toArray ops, f', h') c' ∧
      h'.allocs = h.allocs + refAllocs needle.len .borrowed (ops.map FinderOp.own) := by
  obtain ⟨f, c1, hb, hg, _, ho, _⟩ := FinderBuilder.build_run cfg b rank needle hn c
  obtain ⟨f', h', c', hr, _, ha⟩ := Finder.run_ok cfg needle hn ops hops f hg h c1
  exact ⟨f', h', c', by rw [bind_ok hb, hr], by rw [ha, ho]⟩

/-! ### C16 / C17: the `FindIter` / `FindRevIter` op machines against their references -/

def IterOp.own : IterOp → OwnOp
  | .clone => .clone
  | .intoOwned => .intoOwned
  | _ => .other

theorem FindIter.step_refines (cfg : Api.Cfg) {n0 hay : Slice} (hn0 : n0.Valid) (hh : hay.Valid)
    (op : IterOp) :
    StepRefines (FindIter.step cfg) (refFwd hay.toArray n0.toArray) (FindIter.GoodFor n0 hay)
      (fun it => it.pos) (fun it => it.finder.needle.own) IterOp.own n0.len op := by
  intro it h c hg
  have ⟨hhay, hn, hs⟩ := hg
  cases op with
  | next =>
    obtain ⟨⟨o, it1⟩, c1, h1, rfl, g1, f1, p1, _⟩ := FindIter.next_run cfg hn0 hh hg c
    exact ⟨_, it1, h, c1, bind_ok h1, g1,
      fun ops => by simp only [refFwd_next, show it1.pos = _ from p1]; rfl,
      congrArg (fun f => f.needle.own) f1, (OwnOp.cost_other _ _).symm ▸ rfl⟩
  | sizeHint =>
    exact ⟨some (.hint it.sizeHint.1 it.sizeHint.2), it, h, c, rfl, hg,
      fun _ => by rw [FindIter.sizeHint_eq hn0 hh hg]; rfl, rfl, (OwnOp.cost_other _ _).symm ▸ rfl⟩
  | clone =>
    obtain ⟨a, d, e⟩ := CowBytes.clone_spec hn h
    exact ⟨none, (it.clone h).1, (it.clone h).2, c, rfl, ⟨hhay, a, hs⟩, fun _ => rfl, d, e⟩
  | intoOwned =>
    obtain ⟨a, d, e⟩ := CowBytes.intoOwned_spec hn h
    exact ⟨none, (it.intoOwned h).1, (it.intoOwned h).2, c, rfl, ⟨hhay, a, hs⟩, fun _ => rfl, d, e⟩

/-- **C08 / C16 / C17 / C10 for `FindIter`**: any sequence of `next`, `size_hint`,
`clone`, `into_owned` on a forward iterator in any state returns normally with exactly the
observations of the reference machine started at the same position, and `refAllocs`
allocations. -/
theorem FindIter.run_ok (cfg : Api.Cfg) (n0 hay : Slice) (hn0 : n0.Valid) (hh : hay.Valid)
    (ops : List IterOp) (it : FindIter) (hg : it.GoodFor n0 hay) (h : Heap) (c : Ctr) :
    ∃ it' h' c', FindIter.run cfg ops it h c =
        .ok (refFwd hay.toArray n0.toArray ops it.pos, it', h') c' ∧
      it'.GoodFor n0 hay ∧
      h'.allocs = h.allocs + refAllocs n0.len it.finder.needle.own (ops.map IterOp.own) :=
  run_refines (fun _ _ => rfl) (fun _ _ _ _ => rfl) (fun _ => rfl) ops
    (fun op _ => FindIter.step_refines cfg hn0 hh op) it h c hg

theorem FindRevIter.step_refines (cfg : Api.Cfg) {n0 hay : Slice} (hn0 : n0.Valid)
    (hh : hay.Valid) (op : IterOp) :
    StepRefines (FindRevIter.step cfg) (refRev hay.toArray n0.toArray) (FindRevIter.GoodFor n0 hay)
      (fun it => it.pos) (fun it => it.finder.needle.own) IterOp.own n0.len op := by
  intro it h c hg
  have ⟨hhay, ⟨hn, hs⟩, hpos⟩ := hg
  cases op with
  | next =>
    obtain ⟨⟨o, it1⟩, c1, h1, rfl, g1, f1, p1, _⟩ := FindRevIter.next_run cfg hn0 hh hg c
    exact ⟨_, it1, h, c1, bind_ok h1, g1, fun _ => by simp only [show it1.pos = _ from p1]; rfl,
      congrArg (fun f => f.needle.own) f1, (OwnOp.cost_other _ _).symm ▸ rfl⟩
  | sizeHint =>
    exact ⟨some (.hint 0 none), it, h, c, rfl, hg, fun _ => rfl, rfl,
      (OwnOp.cost_other _ _).symm ▸ rfl⟩
  | clone =>
    obtain ⟨a, d, e⟩ := CowBytes.clone_spec hn h
    exact ⟨none, (it.clone h).1, (it.clone h).2, c, rfl, ⟨hhay, ⟨a, hs⟩, hpos⟩, fun _ => rfl, d, e⟩
  | intoOwned =>
    obtain ⟨a, d, e⟩ := CowBytes.intoOwned_spec hn h
    exact ⟨none, (it.intoOwned h).1, (it.intoOwned h).2, c, rfl, ⟨hhay, ⟨a, hs⟩, hpos⟩,
      fun _ => rfl, d, e⟩

/-- **C08 / C16 / C17 for `FindRevIter`** -/
theorem FindRevIter.run_ok (cfg : Api.Cfg) (n0 hay : Slice) (hn0 : n0.Valid) (hh : hay.Valid)
    (ops : List IterOp) (it : FindRevIter) (hg : it.GoodFor n0 hay) (h : Heap) (c : Ctr) :
    ∃ it' h' c', FindRevIter.run cfg ops it h c =
        .ok (refRev hay.toArray n0.toArray ops it.pos, it', h') c' ∧
      it'.GoodFor n0 hay ∧
      h'.allocs = h.allocs + refAllocs n0.len it.finder.needle.own (ops.map IterOp.own) :=
  run_refines (fun _ _ => rfl) (fun _ _ _ _ => rfl) (fun _ => rfl) ops
    (fun op _ => FindRevIter.step_refines cfg hn0 hh op) it h c hg

/-! ### C16: conversions are invisible -/

/-- `as_ref` / `into_owned` / `clone` -/
def FinderOp.isConv : FinderOp → Bool
  | .asRef => true
  | .intoOwned => true
  | .clone => true
  | _ => false

def IterOp.isConv : IterOp → Bool
  | .clone => true
  | .intoOwned => true
  | _ => false

theorem refFinder_filter (x : Array UInt8) (ops : List FinderOp) :
    refFinder x ops = refFinder x (ops.filter (fun o => !o.isConv)) := by
  induction ops with
  | nil => rfl
  | cons op ops ih =>
    cases op <;> simp only [refFinder, FinderOp.isConv, List.filter_cons, Bool.not_true,
      Bool.not_false, Bool.false_eq_true, if_true, if_false, ih]

theorem refFinderRev_filter (x : Array UInt8) (ops : List FinderOp) :
    Bridge3.refFinderRev x ops = Bridge3.refFinderRev x (ops.filter (fun o => !o.isConv)) := by
  induction ops with
  | nil => rfl
  | cons op ops ih =>
    cases op <;> simp only [Bridge3.refFinderRev, FinderOp.isConv, List.filter_cons, Bool.not_true,
      Bool.not_false, Bool.false_eq_true, if_true, if_false, ih]

theorem refFwd_filter (hay x : Array UInt8) (ops : List IterOp) : ∀ pos,
    refFwd hay x ops pos = refFwd hay x (ops.filter (fun o => !o.isConv)) pos := by
  induction ops with
  | nil => intro pos; rfl
  | cons op ops ih =>
    intro pos
    cases op <;> simp only [refFwd, IterOp.isConv, List.filter_cons, Bool.not_true,
      Bool.not_false, Bool.false_eq_true, if_true, if_false, ih]

theorem refRev_filter (hay x : Array UInt8) (ops : List IterOp) : ∀ st,
    refRev hay x ops st = refRev hay x (ops.filter (fun o => !o.isConv)) st := by
  induction ops with
  | nil => intro st; rfl
  | cons op ops ih =>
    intro st
    cases op <;> simp only [refRev, IterOp.isConv, List.filter_cons, Bool.not_true,
      Bool.not_false, Bool.false_eq_true, if_true, if_false, ih]

set_option linter.unusedVariables false in
/-- **C16 for finders**: an operation sequence and the same sequence with every `as_ref`,
`clone`, `into_owned` removed (or any others inserted) observe the same values; and two
finders for the same needle bytes - however built, configured, borrowed or owned, and whatever
they searched before - observe the same values.  `htw` is not needed (its conclusion is the
theorem `twoWayFwdOk`): a special case of `Finder.run_ok` on both sides. -/
theorem C16.finder (cfg cfg' : Api.Cfg) (n0 : Slice) (hn0 : n0.Valid) (ops ops' : List FinderOp)
    (hops : ∀ op ∈ ops, op.Ok) (hops' : ∀ op ∈ ops', op.Ok)
    (hsame : ops.filter (fun o => !o.isConv) = ops'.filter (fun o => !o.isConv))
    (f f' : Finder) (hg : f.GoodFor n0) (hg' : f'.GoodFor n0)
    (htw : f.searcher.usesTwoWay ∨ f'.searcher.usesTwoWay → TwoWayFwdOk) (h h' : Heap)
    (c c' : Ctr) :
    ∃ outs f1 h1 c1 f1' h1' c1', Finder.run cfg ops f h c = .ok (outs, f1, h1) c1 ∧
      Finder.run cfg' ops' f' h' c' = .ok (outs, f1', h1') c1' := by
  obtain ⟨f1, h1, c1, hr, _⟩ := Finder.run_ok cfg n0 hn0 ops hops f hg h c
  obtain ⟨f1', h1', c1', hr', _⟩ :=
    Finder.run_ok cfg' n0 hn0 ops' hops' f' hg' h' c'
  refine ⟨_, f1, h1, c1, f1', h1', c1', hr, ?_⟩
  rw [hr', refFinder_filter _ ops, refFinder_filter _ ops', hsame]

set_option linter.unusedVariables false in
/-- **C16 for `find_iter`**: two forward iterators over the same haystack for the same needle
bytes at the same position - whatever their prefilter states, ownership, configuration - observe
the same values under operation sequences that agree up to `clone` / `into_owned`.  `htw` is not
needed (its conclusion is the theorem `twoWayFwdOk`): a special case of `FindIter.run_ok` on both
sides. -/
theorem C16.find_iter (cfg cfg' : Api.Cfg) (n0 hay : Slice) (hn0 : n0.Valid) (hh : hay.Valid)
    (ops ops' : List IterOp)
    (hsame : ops.filter (fun o => !o.isConv) = ops'.filter (fun o => !o.isConv))
    (it it' : FindIter) (hg : it.GoodFor n0 hay) (hg' : it'.GoodFor n0 hay)
    (hpos : it.pos = it'.pos)
    (htw : it.finder.searcher.usesTwoWay ∨ it'.finder.searcher.usesTwoWay → TwoWayFwdOk)
    (h h' : Heap) (c c' : Ctr) :
    ∃ outs i1 h1 c1 i1' h1' c1', FindIter.run cfg ops it h c = .ok (outs, i1, h1) c1 ∧
      FindIter.run cfg' ops' it' h' c' = .ok (outs, i1', h1') c1' := by
  obtain ⟨i1, h1, c1, hr, _⟩ :=
    FindIter.run_ok cfg n0 hay hn0 hh ops it hg h c
  obtain ⟨i1', h1', c1', hr', _⟩ :=
    FindIter.run_ok cfg' n0 hay hn0 hh ops' it' hg' h' c'
  refine ⟨_, i1, h1, c1, i1', h1', c1', hr, ?_⟩
  rw [hr', refFwd_filter _ _ ops, refFwd_filter _ _ ops', hsame, hpos]

set_option linter.unusedVariables false in
/-- **C16 for `rfind_iter`**.  `htw` is not needed (its conclusion is the theorem `twoWayRevOk`):
a special case of `FindRevIter.run_ok` on both sides. -/
theorem C16.rfind_iter (cfg cfg' : Api.Cfg) (n0 hay : Slice) (hn0 : n0.Valid) (hh : hay.Valid)
    (ops ops' : List IterOp)
    (hsame : ops.filter (fun o => !o.isConv) = ops'.filter (fun o => !o.isConv))
    (it it' : FindRevIter) (hg : it.GoodFor n0 hay) (hg' : it'.GoodFor n0 hay)
    (hpos : it.pos = it'.pos)
    (htw : it.finder.searcher.usesTwoWay ∨ it'.finder.searcher.usesTwoWay → TwoWayRevOk)
    (h h' : Heap) (c c' : Ctr) :
    ∃ outs i1 h1 c1 i1' h1' c1', FindRevIter.run cfg ops it h c = .ok (outs, i1, h1) c1 ∧
      FindRevIter.run cfg' ops' it' h' c' = .ok (outs, i1', h1') c1' := by
  obtain ⟨i1, h1, c1, hr, _⟩ :=
    FindRevIter.run_ok cfg n0 hay hn0 hh ops it hg h c
  obtain ⟨i1', h1', c1', hr', _⟩ :=
    FindRevIter.run_ok cfg' n0 hay hn0 hh ops' it' hg' h' c'
  refine ⟨_, i1, h1, c1, i1', h1', c1', hr, ?_⟩
  rw [hr', refRev_filter _ _ ops, refRev_filter _ _ ops', hsame, hpos]

/-! ### C17 -/

theorem refAllocs_finder_borrowed (len : Nat) (ops : List FinderOp)
    (hno : FinderOp.intoOwned ∉ ops) :
    refAllocs len .borrowed (ops.map FinderOp.own) = 0 := by
  apply refAllocs_borrowed
  intro hm
  obtain ⟨op, hop, he⟩ := List.mem_map.mp hm
  cases op <;> simp [FinderOp.own] at he
  exact hno hop

theorem refAllocs_iter_borrowed (len : Nat) (ops : List IterOp) (hno : IterOp.intoOwned ∉ ops) :
    refAllocs len .borrowed (ops.map IterOp.own) = 0 := by
  apply refAllocs_borrowed
  intro hm
  obtain ⟨op, hop, he⟩ := List.mem_map.mp hm
  cases op <;> simp [IterOp.own] at he
  exact hno hop

/-- exact count, an instance: `into_owned` of a borrowed non-empty needle, then `clone`, then
`as_ref`, then `clone` again allocates exactly twice -/
example : refAllocs 3 .borrowed [.intoOwned, .other, .clone, .asRef, .clone] = 2 := by decide

/-! ### the hypotheses are satisfiable -/

example : (⟨⟨1, 1048577, #[0, 97, 98, 0]⟩, 1, 2⟩ : Slice).Valid ∧
    (⟨⟨0, 4099, #[120, 97, 98, 97, 98, 120]⟩, 1, 4⟩ : Slice).Valid ∧
    FinderOp.Ok (.find ⟨⟨0, 4099, #[120, 97, 98, 97, 98, 120]⟩, 1, 4⟩) ∧
    FinderOp.intoOwned ∉ [FinderOp.find ⟨⟨0, 4099, #[120, 97, 98, 97, 98, 120]⟩, 1, 4⟩,
      .asRef, .clone, .needle] := by
  refine ⟨by simp [Slice.Valid], by simp [Slice.Valid], by simp [FinderOp.Ok, Slice.Valid],
    by simp⟩

end Memchr.Memmem

namespace Memchr.Bridge3
open Memchr.Memmem

/-! ### end to end from ANY operation sequence (the forms `Props/C05, C14, C16, C17` use) -/

/-- `FinderBuilder` finder, `find_iter(haystack)`, then ANY operation sequence (`next`,
`size_hint`, `clone`, `into_owned`): the observations are those of the reference machine `refFwd`
from position 0, and the allocator is called exactly `refAllocs` times from a borrowed needle -/
theorem findIter_run_all (cfg : Api.Cfg) (b : FinderBuilder) (rank : UInt8 → UInt8)
    (needle hay : Slice) (hn : needle.Valid) (hh : hay.Valid) (ops : List IterOp) (h : Heap)
    (c : Ctr) :
    ∃ it' h' c', (b.buildForwardWithRanker cfg rank needle >>= fun f =>
        FindIter.run cfg ops (f.findIter hay) h) c =
        .ok (refFwd hay.toArray needle.toArray ops 0, it', h') c' ∧
      h'.allocs = h.allocs + refAllocs needle.len .borrowed (ops.map IterOp.own) := by
  obtain ⟨f, c1, hb, hg, _⟩ := FinderBuilder.build_run cfg b rank needle hn c
  -- `find_iter` starts at position 0 on `self.as_ref()`, a borrowed needle
  obtain ⟨it', h', c', hr, _, ha⟩ := FindIter.run_ok cfg needle hay hn hh ops (f.findIter hay)
    (Finder.findIter_good hg hay) h c1
  exact ⟨it', h', c', (bind_ok hb).trans hr, ha⟩

/-- the same for `FinderRev::new(needle).rfind_iter(haystack)` and the reference machine
`refRev` from the state `Some(haystack.len())` -/
theorem rfindIter_run_all (cfg : Api.Cfg) (needle hay : Slice) (hn : needle.Valid)
    (hh : hay.Valid) (ops : List IterOp) (h : Heap) (c : Ctr) :
    ∃ it' h' c', (FinderRev.new needle >>= fun f =>
        FindRevIter.run cfg ops (f.rfindIter hay) h) c =
        .ok (refRev hay.toArray needle.toArray ops (some hay.len), it', h') c' ∧
      h'.allocs = h.allocs + refAllocs needle.len .borrowed (ops.map IterOp.own) := by
  obtain ⟨f, c1, hb, hg, _⟩ := FinderRev.new_run needle hn c
  obtain ⟨it', h', c', hr, _, ha⟩ := FindRevIter.run_ok cfg needle hay hn hh ops (f.rfindIter hay)
    (FinderRev.rfindIter_good hg hay) h c1
  exact ⟨it', h', c', (bind_ok hb).trans hr, ha⟩

/-- `FinderRev::new(needle)`, then any operation sequence: observations `refFinderRev`,
allocations `refAllocs` from a borrowed needle -/
theorem finderRev_run_all (cfg : Api.Cfg) (needle : Slice) (hn : needle.Valid)
    (ops : List FinderOp) (hops : ∀ op ∈ ops, op.Ok) (h : Heap) (c : Ctr) :
    ∃ f' h' c', (FinderRev.new needle >>= fun f => FinderRev.run cfg ops f h) c =
        .ok (refFinderRev needle.toArray ops, f', h') c' ∧
      h'.allocs = h.allocs + refAllocs needle.len .borrowed (ops.map FinderOp.own) := by
  obtain ⟨f, c1, hb, hg, ho, _⟩ := FinderRev.new_run needle hn c
  obtain ⟨f', h', c', hr, _, ha⟩ := FinderRev.run_ok cfg needle hn ops hops f hg h c1
  exact ⟨f', h', c', by rw [bind_ok hb, hr], by rw [ha, ho]⟩

end Memchr.Bridge3

section AxiomCheck
open Memchr.Memmem
#print axioms Finder.run_ok
#print axioms FinderRev.run_ok
#print axioms C16.finder_run_all
#print axioms Memchr.Bridge3.finderRev_run_all
#print axioms Memchr.Bridge3.findIter_run_all
#print axioms Memchr.Bridge3.rfindIter_run_all
#print axioms FindIter.run_ok
#print axioms FindRevIter.run_ok
#print axioms C16.finder
#print axioms C16.find_iter
#print axioms C16.rfind_iter
end AxiomCheck
