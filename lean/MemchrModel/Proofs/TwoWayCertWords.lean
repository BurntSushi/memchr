/-
Word combinatorics behind Two-Way (DESIGN section 8, T1-T3), independent of the executable model
and of the search direction; Lean core only, no imports.

A word is a function `x : Nat → α` together with a length `n` (only the values `x t`, `t < n`,
matter); the alphabet order is an abstract strict total order `lt` (`<` on bytes for
`SuffixKind::Maximal`, `>` for `SuffixKind::Minimal`).  Only the forward constructor
instantiates these statements (`Proofs/TwoWayCertSuffix.lean`, `TwoWayCertShift.lean`); the
reverse constructor is reduced to the forward one on the reversed needle by a simulation
(`Proofs/TwoWayRevBridge.lean`), not by a second instance for a mirrored word.

`Win` is the loop invariant (I0)-(I4) of the maximal-suffix computation (`Suffix::forward`), kept
by its three kinds of step.  `crit_core` is T1, the critical factorisation in the strong form:
every local repetition at the larger of the two maximal-suffix starts (for `lt` and for the flipped
order) is longer than that position and is a period of `x`.  `per_of_short_per` is the key step of
T3, what `Shift::forward` needs.

Lemma (A) of DESIGN section 8 (Fine-Wilf step) is not needed for the certificate: `Accept`
handles the borders in `(i, j)` by the mismatch at offset `k` alone, and T3 follows from T1 applied
to the remainder `k mod p` (a local repetition at `c`, hence a period, contradicting minimality).
A weak Fine-Wilf step on a window is here all the same (`PerW.sub`, `PerW.dvd_of_min`): the cost
proof uses it (`GapOK`, `Proofs/CostTwoWayGap.lean`).
-/

namespace Memchr.TwoWay.Words

structure StrictTotal {α : Type} (lt : α → α → Prop) : Prop where
  irrefl : ∀ a, ¬ lt a a
  trans : ∀ a b c, lt a b → lt b c → lt a c
  tri : ∀ a b, lt a b ∨ a = b ∨ lt b a

namespace StrictTotal

variable {α : Type} {lt : α → α → Prop}

theorem asymm (h : StrictTotal lt) {a b : α} (h1 : lt a b) (h2 : lt b a) : False :=
  h.irrefl a (h.trans a b a h1 h2)

theorem ne (h : StrictTotal lt) {a b : α} (h1 : lt a b) (h2 : a = b) : False := by
  subst h2; exact h.irrefl a h1

theorem flip (h : StrictTotal lt) : StrictTotal (fun a b => lt b a) :=
  ⟨h.irrefl, fun a b c h1 h2 => h.trans c b a h2 h1, fun a b => by
    rcases h.tri a b with h1 | h1 | h1
    · exact Or.inr (Or.inr h1)
    · exact Or.inr (Or.inl h1)
    · exact Or.inl h1⟩

end StrictTotal

section

variable {α : Type} (lt : α → α → Prop) (x : Nat → α)

/-- inside the window `[0, L)` the suffix at `s` loses to the suffix at `i` by a strict
mismatch: a common prefix of length `t`, then `x[s + t] < x[i + t]` -/
def Mis (L s i : Nat) : Prop :=
  ∃ t, s + t < L ∧ i + t < L ∧ (∀ u, u < t → x (s + u) = x (i + u)) ∧ lt (x (s + t)) (x (i + t))

/-- `x[s..L)` is a prefix of the suffix at `i` (for `i < s`: a border of `x[i..L)`) -/
def Bord (L s i : Nat) : Prop := ∀ u, s + u < L → x (s + u) = x (i + u)

/-- `p` is a period of the window `x[i..L)` -/
def PerW (i L p : Nat) : Prop := ∀ t, i ≤ t → t + p < L → x t = x (t + p)

/-- `k` is a local repetition of `x[0..n)` at position `c` -/
def LRF (n c k : Nat) : Prop := ∀ t, c ≤ t + k → t < c → t + k < n → x t = x (t + k)

end

section

variable {α : Type} {lt : α → α → Prop} {x : Nat → α}

theorem Mis.mono {L L' s i : Nat} (h : Mis lt x L s i) (hL : L ≤ L') : Mis lt x L' s i := by
  obtain ⟨t, h1, h2, h3, h4⟩ := h
  exact ⟨t, by omega, by omega, h3, h4⟩

theorem Mis.trans (ho : StrictTotal lt) {L a b c : Nat} (h1 : Mis lt x L a b)
    (h2 : Mis lt x L b c) : Mis lt x L a c := by
  obtain ⟨t1, ha1, hb1, e1, l1⟩ := h1
  obtain ⟨t2, hb2, hc2, e2, l2⟩ := h2
  rcases Nat.lt_trichotomy t1 t2 with h | h | h
  · exact ⟨t1, ha1, Nat.lt_trans (Nat.add_lt_add_left h c) hc2,
      fun u hu => (e1 u hu).trans (e2 u (Nat.lt_trans hu h)), by
      rw [← e2 t1 h]; exact l1⟩
  · subst h
    exact ⟨t1, ha1, hc2, fun u hu => (e1 u hu).trans (e2 u hu), ho.trans _ _ _ l1 l2⟩
  · exact ⟨t2, Nat.lt_trans (Nat.add_lt_add_left h a) ha1, hc2,
      fun u hu => (e1 u (Nat.lt_trans hu h)).trans (e2 u hu), by
      rw [e1 t2 h]; exact l2⟩

theorem Mis.asymm (ho : StrictTotal lt) {L a b : Nat} (h1 : Mis lt x L a b)
    (h2 : Mis lt x L b a) : False := by
  obtain ⟨t1, _, _, e1, l1⟩ := h1
  obtain ⟨t2, _, _, e2, l2⟩ := h2
  rcases Nat.lt_trichotomy t1 t2 with h | h | h
  · exact ho.ne l1 (e2 t1 h).symm
  · subst h; exact ho.asymm l1 l2
  · exact ho.ne l2 (e1 t2 h).symm

/-- a suffix that loses by a mismatch is not extended by the winner -/
theorem Mis.not_bord (ho : StrictTotal lt) {L a b : Nat} (h1 : Mis lt x L a b)
    (h2 : Bord x L b a) : False := by
  obtain ⟨t, _, hb, _, l⟩ := h1
  exact ho.ne l (h2 t hb).symm

theorem Mis.not_bord' (ho : StrictTotal lt) {L a b : Nat} (h1 : Mis lt x L a b)
    (h2 : Bord x L a b) : False := by
  obtain ⟨t, ha, _, _, l⟩ := h1
  exact ho.ne l (h2 t ha)

theorem Mis.lt_right {L a b : Nat} (h : Mis lt x L a b) : b < L := by
  obtain ⟨t, _, h2, _⟩ := h
  exact Nat.lt_of_le_of_lt (Nat.le_add_right b t) h2

/-- the same mismatch read from the other side -/
theorem Mis.swap {L a b : Nat} (h : Mis lt x L a b) : Mis (fun p q => lt q p) x L b a := by
  obtain ⟨t, h1, h2, h3, h4⟩ := h
  exact ⟨t, h2, h1, fun u hu => (h3 u hu).symm, h4⟩

/-- a mismatch survives dropping `k` letters from both suffixes, unless it lies among them -/
theorem Mis.drop {L a b : Nat} (h : Mis lt x L a b) (k : Nat) :
    (∃ t, t < k ∧ b + t < L ∧ lt (x (a + t)) (x (b + t))) ∨ Mis lt x L (a + k) (b + k) := by
  obtain ⟨t, h1, h2, h3, h4⟩ := h
  rcases Nat.lt_or_ge t k with htk | htk
  · exact Or.inl ⟨t, htk, h2, h4⟩
  · obtain ⟨r, rfl⟩ := Nat.exists_eq_add_of_le' htk
    have e : ∀ a v, a + k + v = a + (v + k) := fun a v =>
      (Nat.add_right_comm a k v).trans (Nat.add_assoc a v k)
    refine Or.inr ⟨r, ?_, ?_, fun u hu => ?_, ?_⟩
    · rw [e]; exact h1
    · rw [e]; exact h2
    · rw [e, e]; exact h3 (u + k) (Nat.add_lt_add_right hu k)
    · rw [e, e]; exact h4

/-- a mismatch behind a common prefix of length `e` -/
theorem Mis.prepend {L a b e : Nat} (h : Mis lt x L (a + e) (b + e))
    (hpre : ∀ u, u < e → x (a + u) = x (b + u)) : Mis lt x L a b := by
  obtain ⟨t, h1, h2, h3, h4⟩ := h
  rw [Nat.add_assoc] at h1 h2 h4
  rw [Nat.add_assoc] at h4
  refine ⟨e + t, h1, h2, fun u hu => ?_, h4⟩
  rcases Nat.lt_or_ge u e with hue | hue
  · exact hpre u hue
  · obtain ⟨v, rfl⟩ := Nat.exists_eq_add_of_le hue
    rw [← Nat.add_assoc, ← Nat.add_assoc]
    exact h3 v (Nat.lt_of_add_lt_add_left hu)

theorem PerW.mono {i i' L L' p : Nat} (h : PerW x i L p) (hi : i ≤ i') (hL : L' ≤ L) :
    PerW x i' L' p :=
  fun t h1 h2 => h t (by omega) (by omega)

/-- iterating a period inside the window -/
theorem PerW.mul {i L p : Nat} (h : PerW x i L p) (t m : Nat) (ht : i ≤ t)
    (hm : t + p * m < L) : x t = x (t + p * m) := by
  induction m with
  | zero => simp
  | succ m ih =>
    rw [Nat.mul_succ, ← Nat.add_assoc] at hm ⊢
    rw [ih (Nat.lt_of_le_of_lt (Nat.le_add_right _ p) hm),
      h (t + p * m) (Nat.le_trans ht (Nat.le_add_right t _)) hm]

/-- weak Fine-Wilf step: of two periods whose sum fits into the window, the difference is a
period too -/
theorem PerW.sub {i L b e : Nat} (ha : PerW x i L (b + e)) (hb : PerW x i L b)
    (hab : i + (b + e) + b ≤ L) : PerW x i L e := by
  intro t h1 h2
  by_cases hta : t + (b + e) < L
  · rw [ha t h1 hta, hb (t + e) (Nat.le_trans h1 (Nat.le_add_right t e)) (by omega),
      Nat.add_right_comm, Nat.add_assoc]
  · -- `t + b + e` is outside: go one `b` to the left first
    obtain ⟨s, rfl⟩ := Nat.exists_eq_add_of_le' (show b ≤ t by omega)
    rw [← hb s (by omega) (Nat.lt_of_le_of_lt (Nat.le_add_right _ e) h2),
      ha s (by omega) (Nat.add_assoc s b e ▸ h2), Nat.add_assoc]

/-- a period `d` that fits into the window together with the smallest period `p` is a multiple
of `p` (Euclid's algorithm by `PerW.sub`) -/
theorem PerW.dvd_of_min {i L p : Nat} (hp1 : 1 ≤ p) (hp : PerW x i L p)
    (hmin : ∀ k, 1 ≤ k → PerW x i L k → p ≤ k) :
    ∀ d, PerW x i L d → i + d + p ≤ L → p ∣ d := by
  intro d
  induction d using Nat.strongRecOn with
  | _ d ih =>
    intro hd hdp
    rcases Nat.eq_zero_or_pos d with h0 | h0
    · exact h0 ▸ Nat.dvd_zero p
    · obtain ⟨e, rfl⟩ := Nat.exists_eq_add_of_le (hmin d h0 hd)
      exact Nat.dvd_add (Nat.dvd_refl p)
        (ih e (Nat.lt_add_of_pos_left hp1) (hd.sub hp hdp) (by omega))

theorem Bord.perW {L i g : Nat} (h : Bord x L (i + g) i) : PerW x i L g := by
  intro t h1 h2
  obtain ⟨v, rfl⟩ := Nat.exists_eq_add_of_le h1
  rw [Nat.add_right_comm] at h2 ⊢
  exact (h v h2).symm

theorem PerW.bord {i L q : Nat} (h : PerW x i L q) : Bord x L (i + q) i := by
  intro u hu
  rw [Nat.add_right_comm] at hu ⊢
  exact (h (i + u) (Nat.le_add_right i u) hu).symm

/-- Invariants (I0)-(I4) of DESIGN section 8 for the window `x[i..L)` (`L = candidate_start +
offset` bytes examined) with current period `p`, inside the word `x[0..n)`:
`p` is the smallest period of `x[i..L)`, every suffix starting before `i` loses to the one at
`i` by a mismatch somewhere in `x`, and every suffix starting inside `(i, L)` either loses by a
mismatch inside the window or is a border of the window. -/
structure Win (lt : α → α → Prop) (x : Nat → α) (n i L p : Nat) : Prop where
  ip : i + p ≤ L
  p1 : 1 ≤ p
  le : L ≤ n
  per : PerW x i L p
  minp : ∀ q, 1 ≤ q → q < p → ¬ PerW x i L q
  left : ∀ s, s < i → Mis lt x n s i
  right : ∀ s, i < s → s < L → Mis lt x L s i ∨ Bord x L s i

variable {n i L p : Nat}

/-- the start state `(pos, candidate_start, offset, period) = (0, 1, 0, 1)` -/
theorem Win.init (hn : 1 ≤ n) : Win lt x n 0 1 1 :=
  ⟨by omega, by omega, hn, fun t _ h => by omega, fun q h1 h2 => by omega,
    fun s hs => by omega, fun s h1 h2 => by omega⟩

theorem Win.right' (w : Win lt x n i L p) (s : Nat) (h1 : i < s) (h2 : s ≤ L) :
    Mis lt x L s i ∨ Bord x L s i := by
  by_cases h : s < L
  · exact w.right s h1 h
  · exact Or.inr (fun u hu => by omega)

theorem Win.le_per (w : Win lt x n i L p) {q : Nat} (hq1 : 1 ≤ q) (hq : PerW x i L q) :
    p ≤ q := by
  rcases Nat.lt_or_ge q p with h | h
  · exact absurd hq (w.minp q hq1 h)
  · exact h

/-- **Lemma (B)**: the longest border has the smallest next letter: for every period `q = p + g`
of the window, `x[L - p] >= x[L - q]` (here `L - q = i + v`) -/
theorem Win.lemmaB (ho : StrictTotal lt) (w : Win lt x n i L p) {g v : Nat}
    (hq : PerW x i L (p + g)) (hL : i + v + (p + g) = L) : ¬ lt (x (i + v)) (x (i + g + v)) := by
  intro hlt
  have hp1 := w.p1
  rcases Nat.eq_zero_or_pos g with h0 | h0
  · subst h0
    exact ho.irrefl _ hlt
  · -- the suffix at `i + g` agrees with the one at `i` on `v` letters
    have hpre : ∀ u, u < v → x (i + g + u) = x (i + u) := by
      intro u hu
      rw [w.per (i + g + u) (by omega) (by omega), hq (i + u) (Nat.le_add_right i u) (by omega)]
      congr 1
      omega
    rcases w.right (i + g) (Nat.lt_add_of_pos_right h0) (by omega) with hm | hbd
    · obtain ⟨t, h1, h2, h3, h4⟩ := hm
      rcases Nat.lt_trichotomy t v with h | h | h
      · exact ho.ne h4 (hpre t h)
      · subst h
        exact ho.asymm h4 hlt
      · exact ho.ne hlt (h3 v h).symm
    · exact ho.ne hlt (hbd v (by omega)).symm

/-- (B) for a border given as such: `x[i + g..L)`, of length `e` -/
theorem Win.bord_not_lt (ho : StrictTotal lt) (w : Win lt x n i L p) {g e a : Nat} (hg : 1 ≤ g)
    (hL : i + g + e = L) (hbd : Bord x L (i + g) i) (hap : a + p = L) :
    ¬ lt (x (i + e)) (x a) := by
  obtain ⟨g', rfl⟩ := Nat.exists_eq_add_of_le (w.le_per hg hbd.perW)
  have ha : a = i + g' + e := by omega
  exact ha ▸ w.lemmaB ho hbd.perW (by omega)

/-- `Push` (the two compared bytes are equal, i.e. `x[L] = x[L - p]`): the window grows by one
byte and keeps its period -/
theorem Win.push (ho : StrictTotal lt) (w : Win lt x n i L p) (hL : L < n) {a : Nat}
    (hap : a + p = L) (heq : x L = x a) : Win lt x n i (L + 1) p := by
  refine ⟨Nat.le_succ_of_le w.ip, w.p1, hL, ?_, ?_, w.left, ?_⟩
  · intro t h1 h2
    rcases Nat.lt_or_ge (t + p) L with h | h
    · exact w.per t h1 h
    · have : t = a := by omega
      subst this
      rw [hap]
      exact heq.symm
  · intro q h1 h2 hq
    exact w.minp q h1 h2 (hq.mono (Nat.le_refl _) (Nat.le_succ L))
  · intro s h1 h2
    rcases w.right' s h1 (Nat.le_of_lt_succ h2) with hm | hbd
    · exact Or.inl (hm.mono (Nat.le_succ L))
    · -- the border `x[s..L)`, `s = i + g + 1`, has length `e`
      obtain ⟨g, rfl⟩ := Nat.exists_eq_add_of_lt h1
      obtain ⟨e, he⟩ := Nat.exists_eq_add_of_le (Nat.le_of_lt_succ h2)
      have hB := w.bord_not_lt ho (Nat.succ_pos g) he.symm hbd hap
      rcases ho.tri (x L) (x (i + e)) with h | h | h
      · exact Or.inl ⟨e, he ▸ Nat.lt_succ_self _, by omega, fun u hu => hbd u (by omega), he ▸ h⟩
      · refine Or.inr (fun u hu => ?_)
        rcases Nat.lt_or_ge (i + g + 1 + u) L with hu' | hu'
        · exact hbd u hu'
        · have : u = e := by omega
          subst this
          exact he ▸ h
      · rw [heq] at h
        exact absurd h hB

/-- `Skip` (the candidate byte is smaller: `x[L] < x[L - p]`): the window grows by one byte
and becomes unbordered, the new period is its length -/
theorem Win.skip (ho : StrictTotal lt) (w : Win lt x n i L p) (hL : L < n) {a : Nat}
    (hap : a + p = L) (hlt : lt (x L) (x a)) : Win lt x n i (L + 1) (L + 1 - i) := by
  have hip := w.ip
  have hp1 := w.p1
  -- the new byte is strictly smaller than the byte after every border `x[i + g + 1..L)`
  have key : ∀ g e, i + (g + 1) + e = L → Bord x L (i + (g + 1)) i → lt (x L) (x (i + e)) := by
    intro g e he hbd
    have hB := w.bord_not_lt ho (Nat.succ_pos g) he hbd hap
    rcases ho.tri (x L) (x (i + e)) with h | h | h
    · exact h
    · rw [h] at hlt
      exact absurd hlt hB
    · exact absurd (ho.trans _ _ _ h hlt) hB
  -- `P`: the length of the new window
  obtain ⟨P, hP⟩ := Nat.exists_eq_add_of_le (show i ≤ L + 1 by omega)
  rw [hP, Nat.add_sub_cancel_left]
  refine ⟨Nat.le_refl _, by omega, hP ▸ hL, fun t h1 h2 =>
    absurd h1 (Nat.not_le_of_lt (Nat.lt_of_add_lt_add_right h2)), ?_, w.left, ?_⟩
  · intro q h1 h2 hq
    rw [← hP] at hq
    -- a period `q = g + 1` shorter than the new window leaves a border of length `e`
    obtain ⟨g, rfl⟩ := Nat.exists_eq_add_of_le' h1
    obtain ⟨e, rfl⟩ := Nat.exists_eq_add_of_lt h2
    have he : i + (g + 1) + e = L := by omega
    have he' : i + e + (g + 1) = L := Nat.add_right_comm i e (g + 1) ▸ he
    have := key g e he (hq.mono (Nat.le_refl _) (Nat.le_succ L)).bord
    rw [hq (i + e) (Nat.le_add_right i e) (he' ▸ Nat.lt_succ_self L), he'] at this
    exact ho.irrefl _ this
  · intro s h1 h2
    rw [← hP] at h2 ⊢
    rcases w.right' s h1 (Nat.le_of_lt_succ h2) with hm | hbd
    · exact Or.inl (hm.mono (Nat.le_succ L))
    · obtain ⟨g, rfl⟩ := Nat.exists_eq_add_of_lt h1
      obtain ⟨e, he⟩ := Nat.exists_eq_add_of_le (Nat.le_of_lt_succ h2)
      exact Or.inl ⟨e, he ▸ Nat.lt_succ_self _, by omega, fun u hu => hbd u (by omega),
        he ▸ key g e he.symm hbd⟩

/-- `Accept` (the candidate byte is larger): the candidate `j` (a border start: `x[j..j+k) =
x[i..i+k)`, `L = j + k`) becomes the new suffix start with the one-byte window `x[j..j+1)` -/
theorem Win.accept (ho : StrictTotal lt) (w : Win lt x n i L p) {j k : Nat} (hij : i < j)
    (hjk : j + k = L) (hL : L < n) (hpre : ∀ u, u < k → x (i + u) = x (j + u))
    (hlt : lt (x (i + k)) (x (j + k))) : Win lt x n j (j + 1) 1 := by
  have hjn : j + k < n := hjk ▸ hL
  have hMij : Mis lt x n i j :=
    ⟨k, Nat.lt_trans (Nat.add_lt_add_right hij k) hjn, hjn, hpre, hlt⟩
  refine ⟨Nat.le_refl _, Nat.le_refl _,
    Nat.succ_le_of_lt (Nat.lt_of_le_of_lt (Nat.le_add_right j k) hjn),
    fun t h1 h2 => absurd h1 (Nat.not_le_of_lt (Nat.lt_of_add_lt_add_right h2)),
    fun q h1 h2 => absurd h1 (Nat.not_le_of_lt h2), ?_,
    fun s h1 h2 => absurd (Nat.succ_le_of_lt h1) (Nat.not_le_of_lt h2)⟩
  intro s hs
  rcases Nat.lt_trichotomy s i with h | h | h
  · exact (w.left s h).trans ho hMij
  · subst h
    exact hMij
  · rcases w.right s h (hjk ▸ Nat.lt_of_lt_of_le hs (Nat.le_add_right j k)) with hm | hbd
    · exact (hm.mono w.le).trans ho hMij
    · refine ⟨k, ?_, hjn, fun u hu => ?_, ?_⟩
      · exact Nat.lt_trans (Nat.add_lt_add_right hs k) hjn
      · rw [hbd u (by omega)]
        exact hpre u hu
      · rw [hbd k (by omega)]
        exact hlt

/-- `i` starts the maximal suffix of `x[0..n)` for the order `lt` (a proper prefix is smaller):
every longer suffix loses by a mismatch, every shorter one loses by a mismatch or is a prefix -/
structure MaxSuf (lt : α → α → Prop) (x : Nat → α) (n i : Nat) : Prop where
  left : ∀ s, s < i → Mis lt x n s i
  right : ∀ s, i < s → s < n → Mis lt x n s i ∨ Bord x n s i

/-- the loop invariant at exit (`L = n`) -/
theorem Win.maxSuf (w : Win lt x n i n p) : MaxSuf lt x n i := ⟨w.left, w.right⟩

/-- **T1 (critical factorisation, strong form).**  Let `c` start the maximal suffix for `lt`,
`d <= c` start the maximal suffix for the reversed order (only its `right` half is needed).
Then every local repetition `k >= 1` at `c` is longer than `c` and is a period of `x`. -/
theorem crit_core (ho : StrictTotal lt) {n c d : Nat} (h1 : MaxSuf lt x n c)
    (h2 : ∀ s, d < s → s < n → Mis (fun a b => lt b a) x n s d ∨ Bord x n s d) (hdc : d ≤ c)
    {k : Nat} (hk : 1 ≤ k) (hlr : LRF x n c k) : c < k ∧ PerW x 0 n k := by
  have hck : c < k := by
    rcases Nat.lt_or_ge c k with h | h
    · exact h
    · exfalso
      -- the suffix at `s = c - k` starts with the repetition
      obtain ⟨s, rfl⟩ := Nat.exists_eq_add_of_le' h
      rcases (h1.left s (Nat.lt_add_of_pos_right hk)).drop k with ⟨t, htk, hb, hlt⟩ | hM
      · have := hlr (s + t) (Nat.add_le_add_right (Nat.le_add_right s t) k)
          (Nat.add_lt_add_left htk s) (Nat.add_right_comm s k t ▸ hb)
        rw [Nat.add_right_comm] at this
        exact ho.ne hlt this
      · -- beyond the repetition: the suffix at `c` loses to the one at `c + k`
        rcases h1.right (s + k + k) (Nat.lt_add_of_pos_right hk) hM.lt_right with hm | hbd
        · exact hM.asymm ho hm
        · exact hM.not_bord ho hbd
  refine ⟨hck, ?_⟩
  intro t _ htk
  rcases Nat.lt_or_ge t c with htc | htc
  · exact hlr t (Nat.le_trans (Nat.le_of_lt hck) (Nat.le_add_left k t)) htc htk
  · have hckn : c + k < n := Nat.lt_of_le_of_lt (Nat.add_le_add_right htc k) htk
    rcases h1.right (c + k) (Nat.lt_add_of_pos_right hk) hckn with hm | hbd
    · exfalso
      -- behind `x[d..c) = x[d+k..c+k)`: under the reversed order the suffix at `d` loses to
      -- the one at `d + k`
      obtain ⟨e, rfl⟩ := Nat.exists_eq_add_of_le hdc
      have hM : Mis (fun a b => lt b a) x n d (d + k) := by
        refine Mis.prepend (e := e) (Nat.add_right_comm d e k ▸ hm.swap) (fun u hu => ?_)
        have := hlr (d + u) (by omega) (Nat.add_lt_add_left hu d) (by omega)
        rwa [Nat.add_right_comm] at this
      rcases h2 (d + k) (Nat.lt_add_of_pos_right hk) hM.lt_right with hm' | hbd'
      · exact hM.asymm ho.flip hm'
      · exact hM.not_bord ho.flip hbd'
    · obtain ⟨v, rfl⟩ := Nat.exists_eq_add_of_le htc
      have := hbd v (Nat.add_right_comm c k v ▸ htk)
      rw [Nat.add_right_comm] at this
      exact this.symm

/-- if `k = r + p * m` is a period of `x`, shorter than `x[c..n)`, and `p` is a period of
`x[c..n)`, then `r` is a local repetition at `c` -/
theorem lr_of_per_add {n c p k r m : Nat} (hk : PerW x 0 n k) (hck : c + k ≤ n)
    (hp : PerW x c n p) (e : k = r + p * m) : LRF x n c r := by
  intro t h1 h2 h3
  subst e
  have h4 : t + (r + p * m) < n := Nat.lt_of_lt_of_le (Nat.add_lt_add_right h2 _) hck
  rw [hk t (Nat.zero_le _) h4, hp.mul (t + r) m h1 (Nat.add_assoc t r (p * m) ▸ h4),
    Nat.add_assoc]

/-- **T3, key step.**  Let `c` satisfy the conclusion of T1 and let `p` be the smallest period
of `x[c..n)`.  If `x` has a period `k` shorter than `x[c..n)`, then `p` itself is a period of
`x` and `c < p`. -/
theorem per_of_short_per {n c p k : Nat}
    (hcore : ∀ k, 1 ≤ k → LRF x n c k → c < k ∧ PerW x 0 n k)
    (hp1 : 1 ≤ p) (hp : PerW x c n p) (hmin : ∀ q, 1 ≤ q → q < p → ¬ PerW x c n q)
    (hk1 : 1 ≤ k) (hk : PerW x 0 n k) (hck : c + k ≤ n) : c < p ∧ PerW x 0 n p := by
  have e : k = k % p + p * (k / p) := (Nat.mod_add_div k p).symm
  have hr : k % p = 0 := by
    rcases Nat.eq_zero_or_pos (k % p) with h | h
    · exact h
    · exfalso
      have := (hcore (k % p) h (lr_of_per_add hk hck hp e)).2
      exact hmin (k % p) h (Nat.mod_lt _ hp1) (this.mono (Nat.zero_le _) (Nat.le_refl _))
  rw [hr, Nat.zero_add] at e
  -- `k = p * (m + 1)`
  obtain ⟨m, hm⟩ : ∃ m, k / p = m + 1 := by
    rcases Nat.eq_zero_or_pos (k / p) with h | h
    · rw [h, Nat.mul_zero] at e
      exact absurd hk1 (e ▸ Nat.not_succ_le_zero 0)
    · exact ⟨k / p - 1, (Nat.sub_add_cancel h).symm⟩
  rw [hm, Nat.mul_succ, Nat.add_comm] at e
  exact hcore p hp1 (lr_of_per_add hk hck hp e)

end

end Memchr.TwoWay.Words
