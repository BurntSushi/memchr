/-
Bit-level facts about the SWAR word tricks of `src/arch/all/memchr.rs`:
`splat`, `has_zero_byte`, `has_needle` and the little-endian word of an 8-byte window.

Only the direction needed for correctness is proved: *no false negatives* — if some byte of
the word is zero then `has_zero_byte` says so (`hasZeroByte_of_zero_byte`), hence if some byte
of an 8-byte window is a needle then `has_needle` is true (`hasNeedle_of_hit`). False positives
only cost time because the byte loop re-checks every byte.

The arguments are about byte `i` of a natural number in general (`byte`, `byte_testBit`,
`leNat_byte`, `sub_byte_top`): no case split on the byte position, no `bv_decide`.
-/
import MemchrModel.Base.Lemmas
import MemchrModel.Model.Swar

namespace Memchr.Swar

/-! ### bytes of a natural number -/

/-- byte `i` of `n`, counted from the least significant -/
def byte (n i : Nat) : Nat := n / 256 ^ i % 256

theorem pow_256 (i : Nat) : (256 : Nat) ^ i = 2 ^ (8 * i) := by
  rw [Nat.pow_mul]

theorem byte_testBit (n i k : Nat) (hk : k < 8) :
    n.testBit (8 * i + k) = (byte n i).testBit k := by
  rw [byte, pow_256, show (256 : Nat) = 2 ^ 8 from rfl, Nat.testBit_mod_two_pow,
    Nat.testBit_div_two_pow, Nat.add_comm, decide_eq_true hk, Bool.true_and]

theorem mod_byte_succ (n i : Nat) :
    n % 256 ^ (i + 1) = n % 256 ^ i + 256 ^ i * byte n i := by
  rw [byte, Nat.pow_succ, Nat.mod_mul]

theorem xor_byte (a b i : Nat) : byte (a ^^^ b) i = byte a i ^^^ byte b i := by
  unfold byte
  rw [pow_256, Nat.xor_div_two_pow]
  exact Nat.xor_mod_two_pow (n := 8)

theorem leNat_byte (bs : List UInt8) (i : Nat) : byte (leNat bs) i = (bs[i]?.getD 0).toNat := by
  unfold byte
  induction bs generalizing i with
  | nil => simp [leNat]
  | cons b bs ih =>
    cases i with
    | zero =>
      rw [leNat, Nat.pow_zero, Nat.div_one, Nat.add_mul_mod_self_left,
        Nat.mod_eq_of_lt b.toNat_lt]
      rfl
    | succ i =>
      rw [leNat, Nat.pow_succ, Nat.mul_comm (256 ^ i) 256, ← Nat.div_div_eq_div_mul,
        Nat.add_mul_div_left _ _ (by decide : 0 < 256), Nat.div_eq_of_lt b.toNat_lt, Nat.zero_add,
        ih i]
      rfl

theorem leNat_lt (bs : List UInt8) : leNat bs < 256 ^ bs.length := by
  induction bs with
  | nil => exact Nat.one_pos
  | cons b bs ih =>
    have hb := b.toNat_lt
    rw [leNat, List.length_cons, Nat.pow_succ]
    omega

theorem word_byte (m : Mem) (a i : Nat) (hi : i < 8) :
    byte (wordOfBytes (m.window a 8)).toNat i = (m.byteAt (a + i)).toNat := by
  have hlt : leNat (m.window a 8) < 2 ^ 64 := by
    have := leNat_lt (m.window a 8)
    rwa [Mem.window_length] at this
  unfold wordOfBytes
  rw [UInt64.toNat_ofNat', Nat.mod_eq_of_lt hlt, leNat_byte, Mem.window_getElem? m a 8 i hi]
  rfl

/-! ### `splat` -/

/-- `(b as usize) * (usize::MAX / 255)` does not overflow: it is the `Nat` product. -/
theorem splat_toNat (b : UInt8) : (splat b).toNat = b.toNat * 0x0101010101010101 := by
  have hb : b.toNat < 256 := b.toNat_lt
  have hc : ((0xFFFFFFFFFFFFFFFF : UInt64) / 255).toNat = 0x0101010101010101 := by decide
  unfold splat
  rw [UInt64.toNat_mul, UInt8.toNat_toUInt64, hc]
  omega

/-- the checked multiplication in `splat` cannot overflow -/
theorem splat_no_overflow (b : UInt8) : b.toNat * (0xFFFFFFFFFFFFFFFF / 255) < 2 ^ 64 := by
  have hb : b.toNat < 256 := b.toNat_lt
  omega

theorem splat_eq_leNat (b : UInt8) : (splat b).toNat = leNat (List.replicate 8 b) := by
  rw [splat_toNat]
  simp only [List.replicate, leNat]
  omega

theorem splat_byte (b : UInt8) (i : Nat) (hi : i < 8) : byte (splat b).toNat i = b.toNat := by
  rw [splat_eq_leNat, leNat_byte, List.getElem?_replicate, if_pos hi]
  rfl

/-! ### `has_zero_byte` -/

/-- Modulo `P = 256 K` let `y + b ≡ u` with `u < K` and `b ≡ K + v` with `v < K`. Then `y`
is `P - K - v + u` modulo `P`, which lies in `[128 K, P)`. -/
theorem sub_mod_top (P K y u v : Nat) (hP : P = 256 * K) (hu : u < K) (hv : v < K)
    (h : (y % P + (K + v)) % P = u) : 128 * K ≤ y % P := by
  have hr : y % P < P := Nat.mod_lt y (by omega)
  rcases Nat.lt_or_ge (y % P + (K + v)) P with hlt | hge
  · rw [Nat.mod_eq_of_lt hlt] at h
    omega
  · rw [Nat.mod_eq_sub_mod hge, Nat.mod_eq_of_lt (by omega)] at h
    omega

/-- If byte `i` of `x` is `0` and byte `i` of `b` is `1`, the top bit of byte `i` of `x - b`
(computed modulo any `M` that is a multiple of `256 ^ (i + 1)`) is set: the byte is `0xFF`, or
`0xFE` when a borrow arrives from below. -/
theorem sub_byte_top (x b M i : Nat) (hM : 256 ^ (i + 1) ∣ M) (hb : b ≤ M)
    (hx : byte x i = 0) (hb1 : byte b i = 1) :
    (M - b + x).testBit (8 * i + 7) = true := by
  have hK : 0 < 256 ^ i := Nat.pow_pos (by decide)
  have hP : 256 ^ (i + 1) = 256 * 256 ^ i := by rw [Nat.pow_succ, Nat.mul_comm]
  have hu : x % 256 ^ (i + 1) = x % 256 ^ i := by
    rw [mod_byte_succ, hx, Nat.mul_zero, Nat.add_zero]
  have hv : b % 256 ^ (i + 1) = 256 ^ i + b % 256 ^ i := by
    rw [mod_byte_succ, hb1, Nat.mul_one, Nat.add_comm]
  have hy : M - b + x + b = M + x := by
    rw [Nat.add_right_comm, Nat.sub_add_cancel hb]
  have hmod : ((M - b + x) % 256 ^ (i + 1) + (256 ^ i + b % 256 ^ i)) % 256 ^ (i + 1) =
      x % 256 ^ i := by
    obtain ⟨t, ht⟩ := hM
    rw [← hv, ← Nat.add_mod, hy, ← hu, ht, Nat.mul_add_mod]
  have hlo := sub_mod_top _ _ _ _ _ hP (Nat.mod_lt _ hK) (Nat.mod_lt _ hK) hmod
  have hm := Nat.testBit_mod_two_pow (M - b + x) (8 * (i + 1)) (8 * i + 7)
  rw [decide_eq_true (by omega : 8 * i + 7 < 8 * (i + 1)), Bool.true_and, ← pow_256] at hm
  rw [← hm]
  apply Nat.testBit_of_two_pow_le_and_two_pow_add_one_gt
  · rw [show 2 ^ (8 * i + 7) = 128 * 256 ^ i by rw [Nat.pow_add, ← pow_256, Nat.mul_comm]]
    exact hlo
  · rw [show 2 ^ (8 * i + 7 + 1) = 256 ^ (i + 1) by rw [pow_256, Nat.mul_add]]
    exact Nat.mod_lt _ (Nat.pow_pos (by decide))

/-- **No false negatives**: if byte `i` of `x` is zero then `has_zero_byte(x)`: bit 7 of byte
`i` is set in each of `x.wrapping_sub(LO)`, `!x` and `HI`. -/
theorem hasZeroByte_of_zero_byte (x : UInt64) (i : Nat) (hi : i < 8)
    (h : byte x.toNat i = 0) : hasZeroByte x = true := by
  have hbit : 8 * i + 7 < 64 := by omega
  have hdvd : 256 ^ (i + 1) ∣ 2 ^ 64 :=
    ⟨256 ^ (7 - i), by rw [← Nat.pow_add, pow_256]; congr 1; omega⟩
  have h1 : (x - LO).toNat.testBit (8 * i + 7) = true := by
    rw [UInt64.toNat_sub, Nat.testBit_mod_two_pow, decide_eq_true hbit, Bool.true_and]
    exact sub_byte_top _ _ _ i hdvd (Nat.le_of_lt LO.toNat_lt) h (splat_byte 1 i hi)
  have h2 : (~~~x).toNat.testBit (8 * i + 7) = true := by
    rw [UInt64.toNat_not, Nat.sub_sub, Nat.add_comm, Nat.testBit_two_pow_sub_succ x.toNat_lt,
      decide_eq_true hbit, byte_testBit _ _ _ (by decide), h]
    rfl
  have h3 : HI.toNat.testBit (8 * i + 7) = true := by
    rw [byte_testBit _ _ _ (by decide), HI, splat_byte _ i hi]
    rfl
  have hb : ((x - LO) &&& ~~~x &&& HI).toNat.testBit (8 * i + 7) = true := by
    rw [UInt64.toNat_and, UInt64.toNat_and, Nat.testBit_and, Nat.testBit_and, h1, h2, h3]
    rfl
  unfold hasZeroByte
  rw [bne_iff_ne]
  intro h0
  rw [h0, UInt64.toNat_zero, Nat.zero_testBit] at hb
  cases hb

theorem hasZeroByte_splat_xor (m : Mem) (a i : Nat) (hi : i < 8) (n : UInt8)
    (h : m.byteAt (a + i) = n) :
    hasZeroByte (splat n ^^^ wordOfBytes (m.window a 8)) = true := by
  apply hasZeroByte_of_zero_byte _ i hi
  rw [UInt64.toNat_xor, xor_byte, splat_byte n i hi, word_byte m a i hi, h, Nat.xor_self]

/-! ### `has_needle` -/

theorem foldl_or_eq_any {α : Type} (f : α → Bool) (l : List α) (init : Bool) :
    l.foldl (fun acc n => acc || f n) init = (init || l.any f) := by
  induction l generalizing init with
  | nil => simp
  | cons x xs ih => simp [ih, Bool.or_assoc]

theorem hasNeedle_eq_any (ns : Needles) (chunk : UInt64) :
    hasNeedle ns chunk = ns.toList.any (fun n => hasZeroByte (splat n ^^^ chunk)) := by
  unfold hasNeedle Needles.toList
  rw [foldl_or_eq_any (fun n => hasZeroByte (splat n ^^^ chunk))]
  simp

/-- **No false negatives** for `has_needle`: a needle byte anywhere in the 8-byte window at `a`
makes `has_needle(chunk)` true. -/
theorem hasNeedle_of_hit (ns : Needles) (m : Mem) (a x : Nat) (h1 : a ≤ x) (h2 : x < a + 8)
    (hp : ns.confirm (m.byteAt x) = true) :
    hasNeedle ns (wordOfBytes (m.window a 8)) = true := by
  rw [hasNeedle_eq_any, List.any_eq_true]
  unfold Needles.confirm at hp
  rw [List.contains_iff_mem] at hp
  obtain ⟨i, rfl⟩ := Nat.le.dest h1
  exact ⟨m.byteAt (a + i), hp, hasZeroByte_splat_xor m a i (Nat.lt_of_add_lt_add_left h2) _ rfl⟩

end Memchr.Swar
