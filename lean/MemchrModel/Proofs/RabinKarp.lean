/-
Rabin-Karp (`src/arch/all/rabinkarp.rs`): `Finder::find` returns the leftmost occurrence,
`FinderRev::rfind` the rightmost one (C12), within an explicit step bound; for an arbitrary
(mismatched) finder the search still never faults and only reports true occurrences (C05).

Both follow from one run theorem per direction that holds for ANY finder (`find_run`,
`rfind_run`): the answer is the first (last) offset at which the hash the loop holds equals the
finder's and the needle occurs.  The loop walk knows nothing about hashing: the hash it holds is
a function of the offset (`fwdHash`, `revHash`); that this is the hash of the window when
`hash_2pow` is right is an induction of its own (`fwdHash_eq`, `revHash_eq`).
-/
import MemchrModel.Base.Least
import MemchrModel.Proofs.IsEqual
import MemchrModel.Proofs.RabinKarpHash

namespace Memchr.RabinKarp

theorem confirm_run (f : Finder) {mh mn : Mem} {cur nstart nlen : Nat} {hash : Hash} {c : Ctr}
    (h1 : mh.base ≤ cur) (h2 : cur + nlen ≤ mh.base + mh.bytes.size)
    (hn1 : mn.base ≤ nstart) (hn2 : nstart + nlen ≤ mn.base + mn.bytes.size) :
    Holds (confirm f mh mn cur nstart nlen hash) c fun eq c' =>
      c'.steps ≤ c.steps + nlen / 4 + 2 ∧
      (eq = true ↔ f.hash = hash ∧ mh.window cur nlen = mn.window nstart nlen) := by
  unfold confirm
  refine Holds.ite (fun hh => ?_) (fun hh => ?_)
  · obtain ⟨c', e, hs⟩ := IsEqual.isEqualRaw_correct mh mn cur nstart nlen c h1 h2 hn1 hn2
    exact ⟨_, c', e, hs, by simp only [decide_eq_true_eq, beq_iff_eq.mp hh, true_and]⟩
  · exact Holds.pure ⟨Nat.le_add_right_of_le (Nat.le_add_right _ _),
      by simp only [Bool.false_eq_true, mt beq_iff_eq.mpr hh, false_and]⟩

/-- what a loop that holds the hash `hash q` at offset `q` of the haystack at `p` tests there -/
def Hit (f : Finder) (mh mn : Mem) (p nstart nlen : Nat) (hash : Nat → Hash) (q : Nat) : Prop :=
  f.hash = hash q ∧ mh.window (p + q) nlen = mn.window nstart nlen

theorem hit_iff_occ (f : Finder) {h n : Slice} (hh : h.Valid) (hn : n.Valid) (hash : Nat → Hash)
    {q : Nat} (hq : q + n.len ≤ h.len) :
    Hit f h.mem n.mem h.ptr n.ptr n.len hash q ↔
      f.hash = hash q ∧ Spec.OccAt h.toArray n.toArray q := by
  rw [Slice.occAt_iff_window hh hn q, and_iff_right hq]
  rfl

/-- one more iteration costs a tick and a confirmation -/
theorem steps_geom {a b c K w : Nat} (h2 : b ≤ a + 1 + w + 2) (h : c ≤ b + K) :
    c ≤ a + (K + (w + 3)) := by
  omega

/-- the bound of the run theorems in the form the property statements give it -/
theorem bound_le {s s' hl nl : Nat} (hs : s' ≤ s + (hl - nl + 1) * (nl / 4 + 3) + nl) :
    s' ≤ s + 2 * (hl + 1) * (nl / 4 + 2) + nl := by
  have : (hl - nl + 1) * (nl / 4 + 3) ≤ (hl + 1) * (2 * (nl / 4 + 2)) :=
    Nat.mul_le_mul (by omega) (by omega)
  rw [Nat.mul_comm 2, Nat.mul_assoc]
  exact Nat.le_trans hs (Nat.add_le_add_right (Nat.add_le_add_left this _) _)

theorem bound_mono {s s' hl nl T : Nat} (h : hl ≤ T)
    (hs : s' ≤ s + 2 * (hl + 1) * (nl / 4 + 2) + 2 * nl) :
    s' ≤ s + 2 * (T + 1) * (nl / 4 + 2) + 2 * nl :=
  have hm : 2 * (hl + 1) * (nl / 4 + 2) ≤ 2 * (T + 1) * (nl / 4 + 2) :=
    Nat.mul_le_mul_right _ (Nat.mul_le_mul_left 2 (Nat.succ_le_succ h))
  Nat.le_trans hs (Nat.add_le_add_right (Nat.add_le_add_left hm s) _)

/-- adding the `m - 1` steps of the construction from a slice of `m` bytes -/
theorem new_bound {s s' X nl m : Nat} (hs : s' ≤ s + (m - 1) + X + nl) : s' ≤ s + X + nl + m := by
  omega

/-- the range the search looks at holds the offsets where the needle fits -/
theorem fits_of_lt {q hl nl : Nat} (h : q < hl + 1 - nl) : q + nl ≤ hl := by
  omega

/-- the last lines of `find` and `rfind`: the address found becomes an offset from `hstart` -/
theorem offset_spec {site : String} {m : Mem} {p : Nat} {c : Ctr} {Q : Option Nat → Ctr → Prop}
    (q : Option Nat) (h1 : m.base ≤ p) (h2 : ∀ k, q = some k → p + k ≤ m.base + m.bytes.size)
    (hQ : Q q c) :
    Holds (match q.map (p + ·) with
      | none => pure none
      | some found => do
        let d ← m.distance site found p
        pure (some d)) c Q := by
  cases q with
  | none => exact Holds.pure hQ
  | some k =>
    show Holds (m.distance site (p + k) p >>= _) c Q
    rw [Mem.distance_eq rfl h1 (h2 k rfl)]
    exact Holds.pure hQ

/-- the hash the forward loop holds when it looks at offset `q` of a haystack at address `p`:
`Hash::forward` of the first window, then rolled `q` times (whatever `hash_2pow` is) -/
def fwdHash (f : Finder) (m : Mem) (p nlen : Nat) : Nat → Hash
  | 0 => H (m.window p nlen)
  | q + 1 => Hash.roll (fwdHash f m p nlen q) f (m.byteAt (p + q)) (m.byteAt (p + q + nlen))

/-- with the right `hash_2pow` the rolled hash is the hash of the window -/
theorem fwdHash_eq (f : Finder) (m : Mem) (p nlen : Nat) (hn : 1 ≤ nlen)
    (hf : f.hash2pow = pow2 (nlen - 1)) (q : Nat) :
    fwdHash f m p nlen q = H (m.window (p + q) nlen) := by
  induction q with
  | zero => rfl
  | succ q ih => rw [fwdHash, ih]; exact roll_window_fwd f m (p + q) nlen hn hf

/-- the window at offset `i ≤ d` lies in the region; `i = d` is where the forward loop stops -/
theorem cur_geom {base size p d nlen i k : Nat} (h1 : base ≤ p) (h3 : p + d + nlen ≤ base + size)
    (hik : i + k = d) :
    base ≤ p + i ∧ p + i + nlen ≤ base + size ∧ i < d + 1 ∧ (p + i ≥ p + d → d + 1 ≤ i + 1) := by
  omega

/-- the addresses the forward loop touches on its way from offset `i < d` to `i + 1`.  In this
order: the byte that leaves (`cur`); the byte that enters (`cur + nlen`, two bounds); `cur.add(1)`;
the offsets left -/
theorem next_geom {base size p d nlen i k : Nat} (h1 : base ≤ p) (h3 : p + d + nlen ≤ base + size)
    (hik : i + (k + 1) = d) :
    p + i < base + size ∧ base ≤ p + i + nlen ∧ p + i + nlen < base + size ∧
      p + i + 1 ≤ base + size ∧ i + 1 + k = d := by
  omega

/-- The loop of `find_raw` for ANY finder, at offset `i` with `k` more offsets to go: the
first offset in `[i, d]` where the rolled hash equals `f.hash` and the window equals the
needle. -/
theorem findLoop_run (f : Finder) {mh mn : Mem} {nstart nlen p d : Nat}
    (h1 : mh.base ≤ p) (h3 : p + d + nlen ≤ mh.base + mh.bytes.size)
    (hn1 : mn.base ≤ nstart) (hn2 : nstart + nlen ≤ mn.base + mn.bytes.size)
    (k i : Nat) (hik : i + k = d) (c : Ctr) :
    Holds (Finder.findLoop f mh mn nstart nlen (p + d) (p + i) (fwdHash f mh p nlen i)) c
      fun r c' => c'.steps ≤ c.steps + (k + 1) * (nlen / 4 + 3) ∧
        ∃ q, r = q.map (p + ·) ∧
          IsLeast (Hit f mh mn p nstart nlen (fwdHash f mh p nlen)) i (d + 1) q := by
  induction k using Nat.strongRecOn generalizing i c with | _ k ih => ?_
  obtain ⟨g1, g2, g3, hlast⟩ := cur_geom h1 h3 hik
  rw [Finder.findLoop, Nat.succ_mul]
  apply Holds.tick_bind
  apply Holds.bind (confirm_run f g1 g2 hn1 hn2)
  intro eq c2 ⟨hs2, hiff⟩
  cases eq with
  | true =>
    exact Holds.pure ⟨steps_geom hs2 (Nat.le_add_right _ _), some i, rfl,
      IsLeast.here (hiff.mp rfl) g3⟩
  | false =>
    have hmiss : ¬ Hit f mh mn p nstart nlen (fwdHash f mh p nlen) i :=
      fun h => Bool.noConfusion (hiff.mpr h)
    rw [if_neg Bool.false_ne_true]
    refine Holds.dite (fun hge => ?_) (fun hlt => ?_)
    · exact Holds.pure ⟨steps_geom hs2 (Nat.le_add_right _ _), none, rfl,
        IsLeast.skip hmiss (IsLeast.empty (hlast hge))⟩
    · cases k with
      | zero => subst hik; exact absurd (Nat.le_refl _) hlt
      | succ k =>
        obtain ⟨g4, g5, g6, g7, g8⟩ := next_geom h1 h3 hik
        apply Holds.read_bind g1 g4
        apply Holds.padd_bind g1 g2
        apply Holds.read_bind g5 g6
        apply Holds.padd_bind g1 g7
        apply Holds.mono (ih k (Nat.lt_succ_self k) (i + 1) g8 _)
        intro r c' ⟨hs, q, hq, hres⟩
        exact ⟨steps_geom hs2 hs, q, hq, IsLeast.skip hmiss hres⟩

/-- what `find_raw` computes from the lengths (`hl = d + nl` when the needle fits).  In this
order: the end of the first window; `hend.sub(nlen)` is `p + d`; the two truncated subtractions of
the statements in terms of `d`; the end of the last window -/
theorem find_geom {size p hl nl d : Nat} (hb2 : p + hl ≤ size) (hd : d + nl = hl) :
    p + nl ≤ size ∧ p + d + nl = p + hl ∧ hl - nl = d ∧ hl + 1 - nl = d + 1 ∧
      p + d + nl ≤ size := by
  omega

theorem findRaw_run (f : Finder) {mh mn : Mem} {p hl nstart nl : Nat} (c : Ctr)
    (h1 : mh.base ≤ p) (h2 : p + hl ≤ mh.base + mh.bytes.size)
    (hn1 : mn.base ≤ nstart) (hn2 : nstart + nl ≤ mn.base + mn.bytes.size) :
    Holds (f.findRaw mh mn p (p + hl) nstart (nstart + nl)) c fun r c' =>
      c'.steps ≤ c.steps + (hl - nl + 1) * (nl / 4 + 3) + nl ∧
      ∃ q, r = q.map (p + ·) ∧
        IsLeast (Hit f mh mn p nstart nl (fwdHash f mh p nl)) 0 (hl + 1 - nl) q := by
  unfold Finder.findRaw
  rw [Mem.distance_eq rfl h1 h2, pure_bind', Mem.distance_eq rfl hn1 hn2, pure_bind']
  refine Holds.ite (fun hgt => ?_) (fun hle => ?_)
  · exact Holds.pure ⟨Nat.le_add_right_of_le (Nat.le_add_right _ _), none, rfl,
      IsLeast.empty (Nat.le_of_eq (Nat.sub_eq_zero_of_le hgt))⟩
  · obtain ⟨d, hd⟩ : ∃ d, d + nl = hl := ⟨hl - nl, Nat.sub_add_cancel (Nat.le_of_not_lt hle)⟩
    obtain ⟨g2, g3, e2, e3, g6⟩ := find_geom h2 hd
    rw [Mem.psub_eq g3 (Nat.le_add_right_of_le h1) h2, pure_bind']
    apply Holds.padd_bind h1 g2
    apply Holds.bind (forward_run mh p nl (p + nl) c rfl h1 g2)
    rintro _ c1 ⟨rfl, hs1⟩
    rw [e2, e3]
    apply Holds.mono (findLoop_run f h1 g6 hn1 hn2 d 0 (Nat.zero_add d) c1)
    intro r c2 ⟨hs2, hres⟩
    exact ⟨Nat.le_trans hs2 (Nat.le_of_eq (by rw [hs1, Nat.add_right_comm])), hres⟩

/-- **`Finder::find` for ANY finder** (any `hash`, any `hash_2pow`): no fault; the answer is the
first offset where the rolled hash equals `f.hash` and the needle occurs. -/
theorem find_run (f : Finder) (h n : Slice) (c : Ctr) (hh : h.Valid) (hn : n.Valid) :
    ∃ r c', f.find h n c = .ok r c' ∧
      c'.steps ≤ c.steps + (h.len - n.len + 1) * (n.len / 4 + 3) + n.len ∧
      IsLeast (fun q => f.hash = fwdHash f h.mem h.ptr n.len q ∧
        Spec.OccAt h.toArray n.toArray q) 0 (h.len + 1 - n.len) r := by
  have hb1 := hh.ptr_le
  have hb2 := hh.endPtr_le
  unfold Finder.find
  apply Holds.padd_bind hb1 hb2
  apply Holds.padd_bind hn.ptr_le hn.endPtr_le
  apply Holds.bind (findRaw_run f c hb1 hb2 hn.ptr_le hn.endPtr_le)
  rintro _ c' ⟨hs, q, rfl, hres⟩
  refine offset_spec q hb1 (fun k hk => ?_)
    ⟨hs, hres.congr fun q _ hq => hit_iff_occ f hh hn _ (fits_of_lt hq)⟩
  subst hk
  exact Nat.le_trans (Nat.add_le_add_left (Nat.le_of_add_right_le (fits_of_lt hres.lt_hi)) _) hb2

/-- A finder built from the needle's bytes tests for an occurrence and nothing else: an
occurrence has the needle's hash.  (For the empty needle the rolled hashes mean nothing, but
offset 0 is a hit.) -/
theorem isLeast_occ_of_spec {f : Finder} {h n : Slice} (hh : h.Valid) (hn : n.Valid)
    (hf : f = Finder.spec n.toList) {r : Option Nat}
    (hres : IsLeast (fun q => f.hash = fwdHash f h.mem h.ptr n.len q ∧
      Spec.OccAt h.toArray n.toArray q) 0 (h.len + 1 - n.len) r) :
    IsLeast (Spec.OccAt h.toArray n.toArray) 0 (h.len + 1 - n.len) r := by
  have hash_eq : f.hash = H (n.mem.window n.ptr n.len) := by
    rw [hf, Finder.spec, Slice.toList_eq_window]
  by_cases h0 : n.len = 0
  · have hit : f.hash = fwdHash f h.mem h.ptr n.len 0 ∧ Spec.OccAt h.toArray n.toArray 0 :=
      ⟨by rw [hash_eq, h0]; rfl, (Slice.occAt_iff_window hh hn 0).mpr ⟨by omega, by rw [h0]; rfl⟩⟩
    obtain ⟨k, rfl, hk⟩ := hres.le_of hit (Nat.le_refl _) (Slice.occAt_lt hh hn hit.2)
    obtain rfl := Nat.le_zero.mp hk
    exact IsLeast.here hit.2 hres.lt_hi
  · refine hres.congr fun q _ _ => ⟨And.right, fun ho => ⟨?_, ho⟩⟩
    rw [fwdHash_eq f h.mem h.ptr n.len (Nat.pos_of_ne_zero h0)
      (by rw [hf, Finder.spec, Slice.toList_length]), ((Slice.occAt_iff_window hh hn q).mp ho).2]
    exact hash_eq

/-- C12 (forward), finder given: a finder built from the needle's bytes finds the leftmost
occurrence, within the bound of `find_run`. -/
theorem find_correct_of_spec (f : Finder) (h n : Slice) (c : Ctr) (hh : h.Valid) (hn : n.Valid)
    (hf : f = Finder.spec n.toList) :
    ∃ c', f.find h n c = .ok (Spec.leftmost h.toArray n.toArray) c' ∧
      c'.steps ≤ c.steps + (h.len - n.len + 1) * (n.len / 4 + 3) + n.len := by
  obtain ⟨r, c', e, hs, hres⟩ := find_run f h n c hh hn
  obtain rfl := (isLeast_occ_of_spec hh hn hf hres).eq_leftmost fun j => Slice.occAt_lt hh hn
  exact ⟨c', e, hs⟩

/-- as `find_correct`, the finder being constructed from another slice `n0` holding the same
bytes as the search needle `n` -/
theorem find_correct_same_bytes (h n0 n : Slice) (c : Ctr) (hh : h.Valid) (hn : n.Valid)
    (hb : n0.toList = n.toList) :
    ∃ c', (Finder.new n0 >>= fun f => f.find h n) c =
        .ok (Spec.leftmost h.toArray n.toArray) c' ∧
      c'.steps ≤ c.steps + 2 * (h.len + 1) * (n.len / 4 + 2) + 2 * n.len := by
  rw [bind_ok (Finder.new_run n0 c), hb, (Slice.same_bytes hb).1]
  obtain ⟨c', e, hs⟩ := find_correct_of_spec (Finder.spec n.toList) h n
    { c with steps := c.steps + (n.len - 1) } hh hn rfl
  exact ⟨c', e, by rw [Nat.two_mul n.len, ← Nat.add_assoc]; exact new_bound (bound_le hs)⟩

/-- C12 (forward) master theorem: `Finder::new(needle).find(haystack, needle)` is the leftmost
occurrence; the steps (construction included) are bounded by
`2 * (h.len + 1) * (n.len / 4 + 2) + 2 * n.len`. -/
theorem find_correct (h n : Slice) (c : Ctr) (hh : h.Valid) (hn : n.Valid) :
    ∃ c', (Finder.new n >>= fun f => f.find h n) c =
        .ok (Spec.leftmost h.toArray n.toArray) c' ∧
      c'.steps ≤ c.steps + 2 * (h.len + 1) * (n.len / 4 + 2) + 2 * n.len :=
  find_correct_same_bytes h n n c hh hn rfl

/-- C05 (forward, out of domain): for an ARBITRARY finder (any hash, any `hash_2pow`, e.g.
built from a different needle) `find` returns normally - no fault of any kind, in
particular no `oobRead`, `misaligned` or `ptrOob` -, any reported offset is a true
occurrence, and the step bound still holds. -/
theorem find_reads_ok (f : Finder) (h n : Slice) (c : Ctr) (hh : h.Valid) (hn : n.Valid) :
    ∃ r c', f.find h n c = .ok r c' ∧
      (∀ i, r = some i → Spec.OccAt h.toArray n.toArray i) ∧
      c'.steps ≤ c.steps + 2 * (h.len + 1) * (n.len / 4 + 2) + n.len := by
  obtain ⟨r, c', e, hs, hres⟩ := find_run f h n c hh hn
  refine ⟨r, c', e, ?_, bound_le hs⟩
  rintro i rfl
  exact hres.holds.2

/-- the hash the reverse loop holds at offset `i` after `k` steps down from offset `i + k` -/
def revHash (f : Finder) (m : Mem) (p nlen : Nat) : Nat → Nat → Hash
  | i, 0 => H (m.window (p + i) nlen).reverse
  | i, k + 1 => Hash.roll (revHash f m p nlen (i + 1) k) f (m.byteAt (p + i + nlen))
      (m.byteAt (p + i))

theorem revHash_eq (f : Finder) (m : Mem) (p nlen : Nat) (hn : 1 ≤ nlen)
    (hf : f.hash2pow = pow2 (nlen - 1)) (i k : Nat) :
    revHash f m p nlen i k = H (m.window (p + i) nlen).reverse := by
  induction k generalizing i with
  | zero => rfl
  | succ k ih => rw [revHash, ih]; exact roll_window_rev f m (p + i) nlen hn hf

/-- the addresses the reverse loop touches on its way from offset `i + 1` to `i`.  In this order:
`cur.sub(1)` (two bounds); `cur'.add(nlen)` (two bounds); the byte that leaves (`cur' + nlen`, two
bounds); the byte that enters (`cur'`); the steps taken -/
theorem prev_geom {base size p d nlen i k : Nat} (h1 : base ≤ p)
    (h3 : p + d + nlen ≤ base + size) (hik : i + 1 + k = d) :
    base + 1 ≤ p + (i + 1) ∧ p + (i + 1) ≤ base + size ∧ base ≤ p + i ∧
      p + i + nlen ≤ base + size ∧ base ≤ p + i + nlen ∧ p + i + nlen < base + size ∧
      p + i < base + size ∧ i + (k + 1) = d := by
  omega

/-- The loop of `rfind_raw` for ANY finder, started at offset `d`, at offset `i` after `k`
steps: the last offset in `[0, i]` where the rolled hash equals `f.hash` and the window equals
the needle. -/
theorem rfindLoop_run (f : Finder) {mh mn : Mem} {nstart nlen p d : Nat}
    (h1 : mh.base ≤ p) (h3 : p + d + nlen ≤ mh.base + mh.bytes.size)
    (hn1 : mn.base ≤ nstart) (hn2 : nstart + nlen ≤ mn.base + mn.bytes.size)
    (i k : Nat) (hik : i + k = d) (c : Ctr) :
    Holds (FinderRev.rfindLoop f mh mn nstart nlen p (p + i) (revHash f mh p nlen i k)) c
      fun r c' => c'.steps ≤ c.steps + (i + 1) * (nlen / 4 + 3) ∧
        ∃ q, r = q.map (p + ·) ∧
          IsGreatest (Hit f mh mn p nstart nlen fun q => revHash f mh p nlen q (d - q)) 0 (i + 1)
            q := by
  induction i using Nat.strongRecOn generalizing k c with | _ i ih => ?_
  obtain ⟨g1, g2, -, -⟩ := cur_geom h1 h3 hik
  have hk : d - i = k := Nat.sub_eq_of_eq_add (hik.symm.trans (Nat.add_comm i k))
  rw [FinderRev.rfindLoop, Nat.succ_mul]
  apply Holds.tick_bind
  apply Holds.bind (confirm_run f g1 g2 hn1 hn2)
  intro eq c2 ⟨hs2, hiff⟩
  rw [← hk] at hiff
  cases eq with
  | true =>
    exact Holds.pure ⟨steps_geom hs2 (Nat.le_add_right _ _), some i, rfl,
      IsGreatest.top (hiff.mp rfl) (Nat.zero_le _)⟩
  | false =>
    have hmiss : ¬ Hit f mh mn p nstart nlen (fun q => revHash f mh p nlen q (d - q)) i :=
      fun h => Bool.noConfusion (hiff.mpr h)
    rw [if_neg Bool.false_ne_true]
    refine Holds.dite (fun hle => ?_) (fun hgt => ?_)
    · obtain rfl : i = 0 := Nat.le_zero.mp (Nat.le_of_add_le_add_left hle)
      exact Holds.pure ⟨steps_geom hs2 (Nat.le_add_right _ _), none, rfl,
        IsGreatest.skip hmiss (IsGreatest.empty (Nat.le_refl _))⟩
    · cases i with
      | zero => exact absurd (Nat.le_refl _) hgt
      | succ i =>
        obtain ⟨g3, g4, g5, g6, g7, g8, g9, g10⟩ := prev_geom h1 h3 hik
        apply Holds.psub_bind g3 g4
        apply Holds.padd_bind (p := p + i) g5 g6
        apply Holds.read_bind g7 g8
        apply Holds.read_bind g5 g9
        apply Holds.mono (ih i (Nat.lt_succ_self i) (k + 1) g10 _)
        intro r c' ⟨hs, q, hq, hres⟩
        exact ⟨steps_geom hs2 hs, q, hq, IsGreatest.skip hmiss hres⟩

theorem rfindRaw_run (f : FinderRev) {mh mn : Mem} {p hl nstart nl : Nat} (c : Ctr)
    (h1 : mh.base ≤ p) (h2 : p + hl ≤ mh.base + mh.bytes.size)
    (hn1 : mn.base ≤ nstart) (hn2 : nstart + nl ≤ mn.base + mn.bytes.size) :
    Holds (f.rfindRaw mh mn p (p + hl) nstart (nstart + nl)) c fun r c' =>
      c'.steps ≤ c.steps + (hl - nl + 1) * (nl / 4 + 3) + nl ∧
      ∃ q, r = q.map (p + ·) ∧
        IsGreatest (Hit f.inner mh mn p nstart nl fun q => revHash f.inner mh p nl q (hl - nl - q))
          0 (hl + 1 - nl) q := by
  unfold FinderRev.rfindRaw
  rw [Mem.distance_eq rfl h1 h2, pure_bind', Mem.distance_eq rfl hn1 hn2, pure_bind']
  refine Holds.ite (fun hgt => ?_) (fun hle => ?_)
  · exact Holds.pure ⟨Nat.le_add_right_of_le (Nat.le_add_right _ _), none, rfl,
      IsGreatest.empty (Nat.le_of_eq (Nat.sub_eq_zero_of_le hgt))⟩
  · obtain ⟨d, hd⟩ : ∃ d, d + nl = hl := ⟨hl - nl, Nat.sub_add_cancel (Nat.le_of_not_lt hle)⟩
    obtain ⟨-, g3, e2, e3, g6⟩ := find_geom h2 hd
    have g4 : mh.base ≤ p + d := Nat.le_add_right_of_le h1
    rw [Mem.psub_eq g3 g4 h2, pure_bind']
    apply Holds.padd_bind g4 g6
    apply Holds.bind (reverse_run mh (p + d) nl (p + d + nl) c rfl g4 g6)
    rintro _ c1 ⟨rfl, hs1⟩
    rw [e2, e3]
    apply Holds.mono (rfindLoop_run f.inner h1 g6 hn1 hn2 d 0 (Nat.add_zero d) c1)
    intro r c2 ⟨hs2, hres⟩
    exact ⟨Nat.le_trans hs2 (Nat.le_of_eq (by rw [hs1, Nat.add_right_comm])), hres⟩

/-- **`FinderRev::rfind` for ANY finder**: no fault; the answer is the last offset where the
rolled hash equals the finder's and the needle occurs. -/
theorem rfind_run (f : FinderRev) (h n : Slice) (c : Ctr) (hh : h.Valid) (hn : n.Valid) :
    ∃ r c', f.rfind h n c = .ok r c' ∧
      c'.steps ≤ c.steps + (h.len - n.len + 1) * (n.len / 4 + 3) + n.len ∧
      IsGreatest (fun q => f.inner.hash = revHash f.inner h.mem h.ptr n.len q (h.len - n.len - q) ∧
        Spec.OccAt h.toArray n.toArray q) 0 (h.len + 1 - n.len) r := by
  have hb1 := hh.ptr_le
  have hb2 := hh.endPtr_le
  unfold FinderRev.rfind
  apply Holds.padd_bind hb1 hb2
  apply Holds.padd_bind hn.ptr_le hn.endPtr_le
  apply Holds.bind (rfindRaw_run f c hb1 hb2 hn.ptr_le hn.endPtr_le)
  rintro _ c' ⟨hs, q, rfl, hres⟩
  refine offset_spec q hb1 (fun k hk => ?_)
    ⟨hs, hres.congr fun q _ hq => hit_iff_occ f.inner hh hn _ (fits_of_lt hq)⟩
  subst hk
  exact Nat.le_trans (Nat.add_le_add_left (Nat.le_of_add_right_le (fits_of_lt hres.lt_hi)) _) hb2

/-- mirror image of `isLeast_occ_of_spec` (for the empty needle the hit is at offset `h.len`) -/
theorem isGreatest_occ_of_spec {f : FinderRev} {h n : Slice} (hh : h.Valid) (hn : n.Valid)
    (hf : f.inner = Finder.spec n.toList.reverse) {r : Option Nat}
    (hres : IsGreatest (fun q => f.inner.hash =
        revHash f.inner h.mem h.ptr n.len q (h.len - n.len - q) ∧
      Spec.OccAt h.toArray n.toArray q) 0 (h.len + 1 - n.len) r) :
    IsGreatest (Spec.OccAt h.toArray n.toArray) 0 (h.len + 1 - n.len) r := by
  have hash_eq : f.inner.hash = H (n.mem.window n.ptr n.len).reverse := by
    rw [hf, Finder.spec, Slice.toList_eq_window]
  by_cases h0 : n.len = 0
  · have hit : f.inner.hash = revHash f.inner h.mem h.ptr n.len h.len (h.len - n.len - h.len) ∧
        Spec.OccAt h.toArray n.toArray h.len :=
      ⟨by rw [hash_eq, h0, Nat.sub_zero, Nat.sub_self]; rfl,
        (Slice.occAt_iff_window hh hn h.len).mpr ⟨by omega, by rw [h0]; rfl⟩⟩
    obtain ⟨k, rfl, hk⟩ := hres.ge_of hit (Nat.zero_le _) (Slice.occAt_lt hh hn hit.2)
    exact ⟨hres.lo_le, hres.lt_hi, hres.holds.2, fun j h1 h2 => by omega⟩
  · refine hres.congr fun q _ _ => ⟨And.right, fun ho => ⟨?_, ho⟩⟩
    rw [revHash_eq f.inner h.mem h.ptr n.len (Nat.pos_of_ne_zero h0)
      (by rw [hf, Finder.spec, List.length_reverse, Slice.toList_length]),
      ((Slice.occAt_iff_window hh hn q).mp ho).2]
    exact hash_eq

/-- C12 (reverse), finder given -/
theorem rfind_correct_of_spec (f : FinderRev) (h n : Slice) (c : Ctr) (hh : h.Valid)
    (hn : n.Valid) (hf : f.inner = Finder.spec n.toList.reverse) :
    ∃ c', f.rfind h n c = .ok (Spec.rightmost h.toArray n.toArray) c' ∧
      c'.steps ≤ c.steps + (h.len - n.len + 1) * (n.len / 4 + 3) + n.len := by
  obtain ⟨r, c', e, hs, hres⟩ := rfind_run f h n c hh hn
  obtain rfl := (isGreatest_occ_of_spec hh hn hf hres).eq_rightmost fun j => Slice.occAt_lt hh hn
  exact ⟨c', e, hs⟩

/-- as `rfind_correct`, the finder being constructed from another slice `n0` holding the same
bytes as the search needle `n` -/
theorem rfind_correct_same_bytes (h n0 n : Slice) (c : Ctr) (hh : h.Valid) (hn : n.Valid)
    (hb : n0.toList = n.toList) :
    ∃ c', (FinderRev.new n0 >>= fun f => f.rfind h n) c =
        .ok (Spec.rightmost h.toArray n.toArray) c' ∧
      c'.steps ≤ c.steps + 2 * (h.len + 1) * (n.len / 4 + 2) + 2 * n.len := by
  rw [bind_ok (FinderRev.new_run n0 c), hb, (Slice.same_bytes hb).1]
  obtain ⟨c', e, hs⟩ := rfind_correct_of_spec ⟨Finder.spec n.toList.reverse⟩ h n
    { c with steps := c.steps + (n.len - 1) } hh hn rfl
  exact ⟨c', e, by rw [Nat.two_mul n.len, ← Nat.add_assoc]; exact new_bound (bound_le hs)⟩

/-- C12 (reverse) master theorem: `FinderRev::new(needle).rfind(haystack, needle)` is the
rightmost occurrence; same step bound as `find_correct`. -/
theorem rfind_correct (h n : Slice) (c : Ctr) (hh : h.Valid) (hn : n.Valid) :
    ∃ c', (FinderRev.new n >>= fun f => f.rfind h n) c =
        .ok (Spec.rightmost h.toArray n.toArray) c' ∧
      c'.steps ≤ c.steps + 2 * (h.len + 1) * (n.len / 4 + 2) + 2 * n.len :=
  rfind_correct_same_bytes h n n c hh hn rfl

/-- C05 (reverse, out of domain): as `find_reads_ok`. -/
theorem rfind_reads_ok (f : FinderRev) (h n : Slice) (c : Ctr) (hh : h.Valid) (hn : n.Valid) :
    ∃ r c', f.rfind h n c = .ok r c' ∧
      (∀ i, r = some i → Spec.OccAt h.toArray n.toArray i) ∧
      c'.steps ≤ c.steps + 2 * (h.len + 1) * (n.len / 4 + 2) + n.len := by
  obtain ⟨r, c', e, hs, hres⟩ := rfind_run f h n c hh hn
  refine ⟨r, c', e, ?_, bound_le hs⟩
  rintro i rfl
  exact hres.holds.2

/-- the hypotheses are satisfiable by a non-trivial input (sub-slices of larger regions) -/
example : (⟨⟨0, 4096, #[9, 1, 2, 1, 2, 3, 9]⟩, 1, 5⟩ : Slice).Valid ∧
    (⟨⟨1, 8192, #[7, 1, 2, 3]⟩, 1, 3⟩ : Slice).Valid := by
  constructor <;> (unfold Slice.Valid; decide)

end Memchr.RabinKarp
