/-
Two-Way (`src/arch/all/twoway.rs`), reverse direction (`FinderRev`): the master theorems.

Two instances of `rfind_spec` (`Proofs/TwoWayRevLoops.lean`), for an arbitrary `TwoWay` value.  With
the invariant "no occurrence ends after `pos`", which the certificate `CertRev` maintains, the
answer is the rightmost occurrence (`rfind_eq_of_cert`, T4-rev); with the trivial invariant a
reported match is an occurrence and the search does not fault (`rfind_sound`).  Either way the
search takes `3` steps per byte the window end travelled and `2 * needle.len + 1` more.  The values
`FinderRev::new` computes satisfy the certificate (`finderRev_new_full`,
`Proofs/TwoWayRevBridge.lean`: the forward theorem for the reversed needle, transported by the
simulation), so both hold of `FinderRev::new(needle).rfind(haystack, needle)` without hypotheses
about the needle (`rfind_correct`, `new_rfind_sound`); `rfind_run_of_cert` is one search with a
finder built earlier, the steps in terms of the answer, as `rfind_iter` needs it.
-/
import MemchrModel.Proofs.TwoWayRevLoops
import MemchrModel.Proofs.TwoWayRevBridge

namespace Memchr.TwoWay

/-- "no occurrence ends after `pos`" (`pos` is the end of the reverse searcher's window) -/
def NoOccAfter (haystack needle : Slice) (pos : Nat) : Prop :=
  ∀ j, pos < j + needle.len → ¬ Occ haystack needle j

/-- how the loop moves the window end down: no occurrence at the `adv` starts skipped, written
`q'` with `q' + k = pos - needle.len` and `k < adv` -/
theorem NoOccAfter.step {haystack needle : Slice} {pos adv : Nat}
    (hinv : NoOccAfter haystack needle pos)
    (hno : ∀ q' k, q' + k = pos - needle.len → k < adv → ¬ Occ haystack needle q') :
    NoOccAfter haystack needle (pos - adv) := by
  intro j hj hocc
  by_cases hjq : pos < j + needle.len
  · exact hinv j hjq hocc
  · exact hno j (pos - needle.len - j) (by omega) (by omega) hocc

theorem loopInvRev_of_cert {tw : TwoWay} {needle haystack : Slice} {step : Nat}
    (hnv : needle.Valid)
    (hcore : CoreRev needle.toArray tw.criticalPos)
    (hmin : ∀ k, Per needle.toArray k → step ≤ k)
    (hbs : ∀ t, t < needle.len → tw.byteset.has (needle.getD t) = true) :
    LoopInvRev tw needle haystack step (NoOccAfter haystack needle)
      (∀ j, ¬ Occ haystack needle j) where
  done := fun pos hinv hq j hocc => hinv j (Nat.lt_of_lt_of_le hq (Nat.le_add_left _ _)) hocc
  bs := fun pos hinv _ _ hnc => hinv.step (fun q' k hq hk => no_occ_byteset_rev hq hbs hnc hk)
  left := fun pos i hinv _ _ hi hic hm hne => hinv.step (fun q' k hq hk =>
    no_occ_left_mismatch hnv hcore hq hm hi hic hne (Nat.le_of_lt_succ hk))
  right := fun pos m hinv _ _ hm hmn hne => hinv.step (fun q' k hq hk hocc => by
    cases k with
    | zero =>
      obtain rfl : q' = pos - needle.len := hq
      exact hne (hocc.2 m (Nat.zero_le m) hmn)
    | succ k => exact no_occ_after_left_match hnv hcore hq hm hmin (Nat.succ_pos k) hk hocc)

theorem rightmost_of_post {haystack needle : Slice} (hhv : haystack.Valid) (hnv : needle.Valid)
    {r : Option Nat}
    (h1 : ∀ q, r = some q → NoOccAfter haystack needle (q + needle.len) ∧ Occ haystack needle q)
    (h2 : r = none → ∀ j, ¬ Occ haystack needle j) :
    r = Spec.rightmost haystack.toArray needle.toArray := by
  refine IsGreatest.eq_rightmost ?_ fun j => Slice.occAt_lt hhv hnv
  cases r with
  | none => exact fun j _ _ hj => h2 rfl j ((occ_iff hhv hnv j).mp hj)
  | some q =>
    have hocc := (occ_iff hhv hnv q).mpr (h1 q rfl).2
    exact ⟨Nat.zero_le q, Slice.occAt_lt hhv hnv hocc, hocc,
      fun j hj _ hj' => (h1 q rfl).1 j (Nat.add_lt_add_right hj _) ((occ_iff hhv hnv j).mp hj')⟩

/-- **T4 (reverse).**  For every `TwoWay` value whose critical position and shift satisfy the
certificate `CertRev` for the needle and whose byte set has no false negatives on the needle's
bytes: `FinderRev::rfind` returns the rightmost occurrence (and never faults), in at most
`3 * (haystack.len - end) + 2 * needle.len + 1` steps, `end` = answer + `needle.len`, or `0` when
the answer is `None` (for a `Large` shift: when `needle.len <= 2 * shift`, which `FinderRev::new`
guarantees). -/
theorem rfind_eq_of_cert (tw : TwoWay) (needle haystack : Slice) (c : Ctr)
    (hnv : needle.Valid) (hhv : haystack.Valid)
    (hcert : CertRev needle.toArray tw.criticalPos tw.shift)
    (hbs : ∀ b, b ∈ needle.toArray → tw.byteset.has b = true) :
    ∃ c', FinderRev.rfind tw haystack needle c =
        .ok (Spec.rightmost haystack.toArray needle.toArray) c' ∧
      ((∀ s, tw.shift = .large s → needle.len ≤ 2 * s) →
        c'.steps + 3 * endOf needle.len (Spec.rightmost haystack.toArray needle.toArray) ≤
          c.steps + 3 * haystack.len + 2 * needle.len + 1) := by
  obtain ⟨r, c', e, h⟩ := rfind_spec tw needle haystack c hnv
    (NoOccAfter haystack needle) (∀ j, ¬ Occ haystack needle j)
    (fun hn => hcert.soundPre (Slice.toArray_size hnv ▸ hn))
    (fun _ hstep => loopInvRev_of_cert hnv hcert.1 (fun _ => hcert.le_per hstep)
      (fun t ht => hbs _ ((Slice.mem_toArray_iff hnv).mpr ⟨t, ht, rfl⟩)))
    (fun j hj hocc => Nat.lt_irrefl _ (Nat.lt_of_lt_of_le hj hocc.1))
  obtain rfl := rightmost_of_post hhv hnv h.hit h.miss
  exact ⟨c', e, h.steps⟩

/-- **Soundness without a certificate.**  For an arbitrary critical position and shift subject
only to `SoundPreRev` and an arbitrary byte set: the reverse search never faults and a reported
`Some(q)` is an occurrence of the needle. -/
theorem rfind_sound (tw : TwoWay) (needle haystack : Slice) (c : Ctr)
    (hnv : needle.Valid) (hhv : haystack.Valid)
    (hsp : 0 < needle.len → SoundPreRev needle.toArray tw.criticalPos tw.shift) :
    ∃ r c', FinderRev.rfind tw haystack needle c = .ok r c' ∧
      (∀ q, r = some q → Spec.OccAt haystack.toArray needle.toArray q) ∧
      ((∀ s, tw.shift = .large s → needle.len ≤ 2 * s) →
        c'.steps ≤ c.steps + 3 * haystack.len + 2 * needle.len + 1) := by
  obtain ⟨r, c', e, h⟩ := rfind_spec tw needle haystack c hnv (fun _ => True) True hsp
    (fun _ _ => loopInvRev_trivial _ _ _ _) trivial
  exact ⟨r, c', e, fun q hq => (occ_iff hhv hnv q).mpr (h.hit q hq).2,
    fun hh => le_of_endOf (h.steps hh)⟩

/-- **Reverse certificate for every needle.**  `FinderRev::new(needle)` returns normally and
the `critical_pos` and `shift` it stores satisfy `CertRev`. -/
theorem cert_rev (needle : Slice) (hnv : needle.Valid) (c : Ctr) :
    ∃ tw c', FinderRev.new needle c = .ok tw c' ∧
      CertRev needle.toArray tw.criticalPos tw.shift :=
  let ⟨tw, c', e, _, _, hcert, _⟩ := finderRev_new_full needle c hnv
  ⟨tw, c', e, hcert⟩

/-- **`FinderRev::new(needle).rfind(haystack, needle)` is the rightmost occurrence**, for every
(valid) needle and haystack: no fault of any kind, at most
`3 * haystack.len + 8 * needle.len + 3` steps. -/
theorem rfind_correct (needle haystack : Slice) (c : Ctr) (hnv : needle.Valid)
    (hhv : haystack.Valid) :
    ∃ c', (FinderRev.new needle >>= fun tw => FinderRev.rfind tw haystack needle) c =
        .ok (Spec.rightmost haystack.toArray needle.toArray) c' ∧
      c'.steps ≤ c.steps + 3 * haystack.len + 8 * needle.len + 3 := by
  obtain ⟨tw, c1, e1, hs1, hbs, hcert, hlarge⟩ := finderRev_new_full needle c hnv
  obtain ⟨c2, e2, h2⟩ := rfind_eq_of_cert tw needle haystack c1 hnv hhv hcert hbs
  refine ⟨c2, ?_, ?_⟩
  · rw [bind_ok e1]; exact e2
  · have := le_of_endOf (h2 fun s hs => (hlarge s hs).1)
    omega

/-- **`FinderRev::new(needle).rfind(haystack, needle)` without any hypothesis** (beyond the
slices being slices): never faults, a reported match is an occurrence, and the whole call takes
at most `3 * haystack.len + 8 * needle.len + 3` steps. -/
theorem new_rfind_sound (needle haystack : Slice) (c : Ctr) (hnv : needle.Valid)
    (hhv : haystack.Valid) :
    ∃ r c', (FinderRev.new needle >>= fun tw => FinderRev.rfind tw haystack needle) c
        = .ok r c' ∧
      (∀ q, r = some q → Spec.OccAt haystack.toArray needle.toArray q) ∧
      c'.steps ≤ c.steps + 3 * haystack.len + 8 * needle.len + 3 := by
  obtain ⟨c', e, hs⟩ := rfind_correct needle haystack c hnv hhv
  exact ⟨_, c', e, fun q hq => ((Spec.rightmost_eq_some_iff _ _ _).mp hq).1, hs⟩

/-- One search with the finder `FinderRev::new(n0)` built, for a search needle `n` that holds the
bytes of `n0` (possibly in another region): the rightmost occurrence, in at most
`3 * (haystack.len - end) + 2 * needle.len + 1` steps, `end` = answer + `needle.len`, or `0` when
the answer is `None` (`rfind_iter` needs the bound in terms of the answer). -/
theorem rfind_run_of_cert (n0 n hay : Slice) (tw : TwoWay) (c0 c0' : Ctr)
    (hn0 : n0.Valid) (hn : n.Valid) (hh : hay.Valid) (hbytes : n.toList = n0.toList)
    (hnew : FinderRev.new n0 c0 = .ok tw c0') (c : Ctr) :
    ∃ c', FinderRev.rfind tw hay n c = .ok (Spec.rightmost hay.toArray n.toArray) c' ∧
      c'.steps + 3 * endOf n.len (Spec.rightmost hay.toArray n.toArray) ≤
        c.steps + 3 * hay.len + 2 * n.len + 1 := by
  have harr := Slice.toArray_congr hn hn0 hbytes
  have hlen : n.len = n0.len := (Slice.same_bytes hbytes).1
  obtain ⟨_, hbs, hcert, hlarge⟩ := Holds.of_run (finderRev_new_full n0 c0 hn0) hnew
  obtain ⟨c', e, hs⟩ := rfind_eq_of_cert tw n hay c hn hh (harr ▸ hcert) (harr ▸ hbs)
  exact ⟨c', e, hs fun s hs => hlen ▸ (hlarge s hs).1⟩

/-- the values `FinderRev::new` computes for a few needles (`#eval` of the model, identical to
the Rust `twnew rev`): "abaab" -> crit 4, Small 3; "aaaa" -> crit 4, Small 1;
"abcabcab" -> crit 6, Small 3; "abcde" -> crit 1, Large 4; "" -> crit 0, Large 0 -/
example : CertRev "abaab".toUTF8.data 4 (.small 3) := by decide
example : CertRev "aaaa".toUTF8.data 4 (.small 1) := by decide
example : CertRev "abcabcab".toUTF8.data 6 (.small 3) := by decide
example : CertRev "abcde".toUTF8.data 1 (.large 4) := by decide
example : CertRev #[] 0 (.large 0) := by decide
/-- the certificate is not vacuous: a wrong critical position is rejected -/
example : ¬ CertRev "abaab".toUTF8.data 3 (.small 3) := by decide

/-- the hypotheses of `rfind_eq_of_cert` hold for the needle "abaab" (region 1, base 4096) with
the values `FinderRev::new` computes for it (`crit = 4`, `Small { period: 3 }`) and a byte set
without false negatives -/
example :
    let needle := Slice.ofMem ⟨1, 4096, "abaab".toUTF8.data⟩
    let haystack := Slice.ofMem ⟨0, 8192, "abaaabaabab".toUTF8.data⟩
    let tw : TwoWay := { byteset := ⟨25769803776⟩, criticalPos := 4, shift := .small 3 }
    needle.Valid ∧ haystack.Valid ∧ CertRev needle.toArray tw.criticalPos tw.shift ∧
      (∀ b, b ∈ needle.toArray → tw.byteset.has b = true) :=
  ⟨Slice.ofMem_valid _, Slice.ofMem_valid _, by decide, by decide⟩

/-- `SoundPreRev` (hypothesis of `rfind_sound`) for "abcde" with the `Large` values of
`FinderRev::new` -/
example : SoundPreRev "abcde".toUTF8.data 1 (.large 4) := by
  simp only [SoundPreRev]; decide

/-- non-vacuity of the hypotheses: valid needle and haystack -/
example :
    let needle := Slice.ofMem ⟨1, 4096, "abaab".toUTF8.data⟩
    let haystack := Slice.ofMem ⟨0, 8192, "abaaabaabab".toUTF8.data⟩
    needle.Valid ∧ haystack.Valid :=
  ⟨Slice.ofMem_valid _, Slice.ofMem_valid _⟩

#print axioms rfind_eq_of_cert
#print axioms rfind_sound
#print axioms finderRev_new_spec
#print axioms new_rfind_sound
#print axioms certRevCheck_iff
#print axioms cert_rev
#print axioms rfind_correct

end Memchr.TwoWay
