/-
`Lawful Neon.impl`: the aarch64 NEON `uint8x16_t` / `NeonMoveMask(u64)` operations described
through `bit m i := m.toNat.testBit (4 * i + 3)` on masks whose set bits are all at
positions `4i + 3` (`Wf`).
-/
import MemchrModel.Base.Run
import MemchrModel.Model.Neon
import MemchrModel.Proofs.NeonBits

namespace Memchr.Neon

open Bits

/-- well-formed NEON mask: every set bit is at a position `4i + 3`
(equivalently `m & !0x8888888888888888 == 0`; see `wf_iff_and_mask`) -/
def Wf (m : UInt64) : Prop := NibWf m.toNat

/-- lane `i` is set in mask `m` -/
def bit (m : UInt64) (i : Nat) : Bool := m.toNat.testBit (4 * i + 3)

theorem bit_lt (m : UInt64) (i : Nat) (hb : bit m i = true) : i < 16 := by
  have : 4 * i + 3 < 64 := lt_of_testBit m.toNat_lt hb
  omega

/-- `Wf` is the same as "no bit outside `0x8888888888888888`". -/
theorem wf_iff_and_mask (m : UInt64) : Wf m ↔ m &&& maskConst = m := by
  constructor
  · intro hw
    apply UInt64.toNat_inj.mp
    rw [UInt64.toNat_and, maskConst_toNat]
    apply Nat.eq_of_testBit_eq
    intro j
    rw [Nat.testBit_and, maskNat_testBit]
    cases h : m.toNat.testBit j with
    | false => simp
    | true =>
      have h1 := hw j h
      have h2 : j < 64 := lt_of_testBit m.toNat_lt h
      simp [h1, h2]
  · intro h
    unfold Wf; rw [← h, UInt64.toNat_and, maskConst_toNat]
    exact nibWf_and_right _ nibWf_maskNat

theorem exists_bit_of_ne_zero (m : UInt64) (hw : Wf m) (hne : m.toNat ≠ 0) :
    ∃ i, bit m i = true := by
  obtain ⟨j, hj⟩ := Nat.exists_testBit_of_ne_zero hne
  exact ⟨j >>> 2, (congrArg m.toNat.testBit (nib_pos hw hj)).trans hj⟩

theorem toNat_ne_zero_of_bit (m : UInt64) : (∃ i, bit m i = true) → m.toNat ≠ 0 :=
  fun ⟨_, hi⟩ => ne_zero_of_testBit hi

theorem bne_zero_iff (m : UInt64) : (m != 0) = true ↔ m.toNat ≠ 0 := by
  rw [bne_iff_ne, ne_eq, ne_eq, ← UInt64.toNat_inj]
  rfl

theorem ne_zero_iff (m : UInt64) (hw : Wf m) : (m != 0) = true ↔ ∃ i, bit m i = true :=
  (bne_zero_iff m).trans ⟨exists_bit_of_ne_zero m hw, toNat_ne_zero_of_bit m⟩

theorem toNat_movemask (v : Vec) :
    (movemask v).toNat = (leNat (shrn4 (asU16s v)) % 2 ^ 64) &&& 0x8888888888888888 := by
  show ((leNat (shrn4 (asU16s v))).toUInt64 &&& maskConst).toNat = _
  rw [UInt64.toNat_and, maskConst_toNat]
  rfl

theorem movemask_wf (v : Vec) : Wf (movemask v) := by
  unfold Wf; rw [toNat_movemask]
  exact nibWf_and_right _ nibWf_maskNat

theorem movemask_bit (v : Vec) (i : Nat) (hv : v.length = 16) (hb : v.IsBool) (hi : i < 16) :
    bit (movemask v) i = v.lane i := by
  unfold bit Vec.lane
  rw [toNat_movemask, Nat.testBit_and, maskNat_testBit, Nat.testBit_mod_two_pow,
    narrowed_testBit v hb (by rw [hv])]
  have h1 : 4 * i + 3 < 64 := by omega
  have h2 : (4 * i + 3) % 4 = 3 := Nat.mul_add_mod 4 i 3
  simp [h1, h2]

theorem willHaveNonZero_iff_exists_ne (v : Vec) (hv : v.length = 16) :
    willHaveNonZero v = true ↔ ¬ ∀ x ∈ v, x = 0 := by
  have hlen : (pairMax v).length = 8 := by rw [pairMax_length, hv]
  have hlt : leNat (pairMax v) < 2 ^ 64 := by
    have := leNat_lt (pairMax v)
    rwa [hlen] at this
  have hto : (le64 (pairMax v)).toNat = leNat (pairMax v) := Nat.mod_eq_of_lt hlt
  show (le64 ((pmaxq v v).take 8) != 0) = true ↔ _
  rw [pmaxq, List.take_left' hlen, bne_zero_iff, hto, Ne, leNat_eq_zero,
    pairMax_all_zero v (by rw [hv])]

theorem exists_lane_iff (v : Vec) (hv : v.length = 16) (hb : v.IsBool) :
    (∃ i, i < 16 ∧ v.lane i = true) ↔ ¬ ∀ x ∈ v, x = 0 := by
  constructor
  · intro ⟨i, _, hi⟩ hall
    exact absurd (hall _ (List.mem_of_getElem? (eq_of_beq hi))) (by decide)
  · intro hn
    obtain ⟨x, hx, hx0⟩ : ∃ x, x ∈ v ∧ ¬ x = 0 := by simpa using hn
    obtain ⟨i, hi, hget⟩ := List.getElem_of_mem hx
    refine ⟨i, hv ▸ hi, ?_⟩
    unfold Vec.lane
    rw [List.getElem?_eq_getElem hi, hget, (hb x hx).resolve_left hx0]
    rfl

theorem will_iff (v : Vec) (hv : v.length = 16) (hb : v.IsBool) :
    willHaveNonZero v = true ↔ ∃ i, i < 16 ∧ v.lane i = true := by
  rw [willHaveNonZero_iff_exists_ne v hv, exists_lane_iff v hv hb]

theorem mand_wf (a b : UInt64) (ha : Wf a) : Wf (a &&& b) := by
  unfold Wf; rw [UInt64.toNat_and]; exact nibWf_and_left _ ha

theorem mor_wf (a b : UInt64) (ha : Wf a) (hb : Wf b) : Wf (a ||| b) := by
  unfold Wf; rw [UInt64.toNat_or]; exact nibWf_or ha hb

theorem mor_bit (a b : UInt64) (i : Nat) : bit (a ||| b) i = (bit a i || bit b i) := by
  unfold bit; rw [UInt64.toNat_or, Nat.testBit_or]

theorem mand_bit (a b : UInt64) (i : Nat) : bit (a &&& b) i = (bit a i && bit b i) := by
  unfold bit; rw [UInt64.toNat_and, Nat.testBit_and]

theorem firstOffset_spec (m : UInt64) (c : Ctr) (hw : Wf m) (hex : ∃ i, bit m i = true) :
    ∃ k, firstOffset m c = .ok k c ∧ bit m k = true ∧ ∀ j, j < k → bit m j = false := by
  obtain ⟨h1, h2⟩ := tz_nib m.toNat m.toNat_lt hw hex
  exact ⟨tz 64 m.toNat >>> 2, rfl, h1, h2⟩

theorem lastOffset_spec (m : UInt64) (c : Ctr) (hw : Wf m) (hex : ∃ i, bit m i = true) :
    ∃ k, lastOffset m c = .ok k c ∧ bit m k = true ∧ ∀ j, k < j → bit m j = false := by
  have hne := toNat_ne_zero_of_bit m hex
  obtain ⟨k, hk, hlen, ht, hl⟩ := bitLen_nib m.toNat m.toNat_lt hw hne
  -- the highest set bit is `4 * k + 3`, so `lz = 4 * j` for the `j` lanes above lane `k`
  obtain ⟨j, hj⟩ : ∃ j, k + 1 + j = 16 := Nat.le.dest (Nat.succ_le_of_lt hk)
  have hlz := lz_add_bitLen (w := 64) m.toNat_lt
  have ez : lz 64 m.toNat = 4 * j := by omega
  refine ⟨k, ?_, ht, hl⟩
  unfold lastOffset
  rw [ez, Nat.shiftRight_eq_div_pow, Nat.mul_div_cancel_left j (by decide), csub_eq hj, pure_bind',
    csub_eq rfl]
  rfl

theorem toNat_and_pred (m : UInt64) (hne : m.toNat ≠ 0) :
    (m &&& (m - 1)).toNat = m.toNat &&& (m.toNat - 1) := by
  have h1 : (1 : UInt64) ≤ m := UInt64.le_iff_toNat_le.mpr (Nat.pos_of_ne_zero hne)
  rw [UInt64.toNat_and, UInt64.toNat_sub_of_le _ _ h1]
  rfl

theorem clearLSB_spec (m : UInt64) (c : Ctr) (hw : Wf m) (hex : ∃ i, bit m i = true) :
    ∃ m', clearLSB m c = .ok m' c ∧ Wf m' ∧
      ∀ k, (bit m k = true ∧ ∀ j, j < k → bit m j = false) →
        ∀ i, bit m' i = (bit m i && i != k) := by
  have hnat := toNat_ne_zero_of_bit m hex
  have hne' : (m == 0) = false := beq_false_of_ne (fun h0 => hnat (h0 ▸ rfl))
  refine ⟨m &&& (m - 1), by simp [clearLSB, hne'], mand_wf m _ hw, ?_⟩
  intro k ⟨hk, hl⟩ i
  unfold bit
  rw [toNat_and_pred m hnat]
  exact and_pred_nib hw hk hl i

theorem toNat_one_shl_shl (n : Nat) (hn : n < 16) :
    (((1 : UInt64) <<< n.toUInt64) <<< 2).toNat = 2 ^ (n + 2) := by
  have hn64 : n < 64 := Nat.lt_trans hn (by decide)
  have h2 : n + 2 < 64 := by omega
  have hto : n.toUInt64.toNat = n := Nat.mod_eq_of_lt (Nat.lt_trans hn (by decide))
  have hshl : ((1 : UInt64) <<< n.toUInt64).toNat = 2 ^ n := by
    rw [UInt64.toNat_shiftLeft, hto, Nat.mod_eq_of_lt hn64]
    show (1 <<< n) % 2 ^ 64 = 2 ^ n
    rw [Nat.one_shiftLeft, Nat.mod_eq_of_lt (Nat.pow_lt_pow_right (by decide) hn64)]
  rw [UInt64.toNat_shiftLeft, hshl]
  show (2 ^ n <<< 2) % 2 ^ 64 = 2 ^ (n + 2)
  rw [Nat.shiftLeft_eq, ← Nat.pow_add, Nat.mod_eq_of_lt (Nat.pow_lt_pow_right (by decide) h2)]

theorem toNat_allExceptLS_mask (n : Nat) (hn : n < 16) :
    (~~~ ((((1 : UInt64) <<< n.toUInt64) <<< 2) - 1)).toNat = 2 ^ 64 - 1 - (2 ^ (n + 2) - 1) := by
  have h1 : (1 : UInt64) ≤ ((1 : UInt64) <<< n.toUInt64) <<< 2 := by
    rw [UInt64.le_iff_toNat_le, toNat_one_shl_shl n hn]
    exact Nat.two_pow_pos _
  rw [UInt64.toNat_not, UInt64.toNat_sub_of_le _ _ h1, toNat_one_shl_shl n hn]
  rfl

theorem allExceptLS_run (n : Nat) (c : Ctr) (hn : n < 16) :
    allExceptLS n c = .ok (~~~ ((((1 : UInt64) <<< n.toUInt64) <<< 2) - 1)) c := by
  have hnz : ((((1 : UInt64) <<< n.toUInt64) <<< 2) == 0) = false :=
    beq_false_of_ne fun h0 => by
      have := toNat_one_shl_shl n hn
      rw [h0] at this
      exact absurd this.symm (Nat.ne_of_gt (Nat.two_pow_pos _))
  have h16 : decide (n < Generated.neonMaskLanes) = true := decide_eq_true hn
  have h64 : n < 64 := Nat.lt_trans hn (by decide)
  simp only [allExceptLS, h16, dbgAssert_true, h64, if_true, hnz, bind, pure]
  rfl

theorem mand_allExceptLS_bit (n : Nat) (hn : n < 16) (m : UInt64) (j : Nat) :
    (m &&& ~~~ ((((1 : UInt64) <<< n.toUInt64) <<< 2) - 1)).toNat.testBit j =
      (m.toNat.testBit j && decide (n + 2 ≤ j)) := by
  rw [UInt64.toNat_and, toNat_allExceptLS_mask n hn]
  exact and_not_low_mask_testBit m.toNat_lt (n + 2) j (by omega)

/-- The mask produced by `all_zeros_except_least_significant(n)` keeps exactly the bits at
positions `>= n + 2`, i.e. (on a well-formed mask) the lanes `i` with `n + 2 <= 4 i + 3`:
it clears only the lanes `i` with `4 i + 1 < n` (about `n / 4` of them), NOT all lanes `< n`. -/
theorem allExceptLS_exact (n : Nat) (c : Ctr) (hn : n < 16) :
    ∃ k, allExceptLS n c = .ok k c ∧
      ∀ m i, bit (m &&& k) i = (bit m i && decide (n + 2 ≤ 4 * i + 3)) :=
  ⟨_, allExceptLS_run n c hn, fun m i => mand_allExceptLS_bit n hn m (4 * i + 3)⟩

theorem allExceptLS_spec (n : Nat) (c : Ctr) (hn : n < 16) :
    ∃ k, allExceptLS n c = .ok k c ∧
      ∀ m, Wf m → Wf (m &&& k) ∧ (∀ i, bit (m &&& k) i = true → bit m i = true) ∧
        (∀ i, n ≤ i → bit (m &&& k) i = bit m i) := by
  obtain ⟨k, hrun, hbit⟩ := allExceptLS_exact n c hn
  refine ⟨k, hrun, ?_⟩
  intro m hw
  refine ⟨mand_wf m _ hw, ?_, ?_⟩
  · intro i hi
    rw [hbit] at hi
    exact (Bool.and_eq_true_iff.mp hi).1
  · intro i hni
    have : n + 2 ≤ 4 * i + 3 := by omega
    rw [hbit, decide_eq_true this, Bool.and_true]

def lawful : Lawful Neon.impl where
  bytes_le := by decide
  pow2 := ⟨4, rfl⟩
  align_eq := rfl
  wf := Wf
  bit := bit
  bit_lt := fun m i _ hb => bit_lt m i hb
  movemask_wf := fun v _ _ => movemask_wf v
  movemask_bit := movemask_bit
  will_iff := will_iff
  hasNonZero_iff := ne_zero_iff
  mor_wf := mor_wf
  mor_bit := fun a b i _ _ => mor_bit a b i
  mand_wf := fun a b ha _ => mand_wf a b ha
  mand_bit := fun a b i _ _ => mand_bit a b i
  countOnes_eq := fun m hw => popcount_nib m.toNat m.toNat_lt hw
  firstOffset_spec := firstOffset_spec
  lastOffset_spec := lastOffset_spec
  clearLSB_spec := clearLSB_spec
  allExceptLS_spec := allExceptLS_spec
  allExceptLS_zero := fun c =>
    let ⟨k, hrun, hk⟩ := allExceptLS_spec 0 c (by decide)
    ⟨k, hrun, fun m hw => ⟨(hk m hw).1, fun i => (hk m hw).2.2 i (Nat.zero_le i)⟩⟩

/-- The laws are not vacuous: a concrete boolean vector, its mask and the lane view. -/
example :
    let v : Vec := [0xFF, 0, 0, 0, 0, 0xFF, 0, 0, 0, 0, 0, 0, 0, 0, 0, 0xFF]
    v.length = 16 ∧ movemask v = 0x8000000000800008 ∧
      (List.range 16).filter (bit (movemask v)) = [0, 5, 15] ∧
      willHaveNonZero v = true := by decide

/-- The known oddity (DESIGN O1), concretely: `all_zeros_except_least_significant(8)` is
`!0x3FF`; and-ing it with the all-lanes mask clears lanes 0 and 1 only, lanes 2..7 survive
although they are `< 8`. (Harmless for the callers, which only need lanes `>= n` kept and no
lane invented; see `Lawful.allExceptLS_spec`.) -/
example :
    (allExceptLS 8 {}).val? = some 0xFFFFFFFFFFFFFC00 ∧
      (List.range 16).filter (bit ((0x8888888888888888 : UInt64) &&& 0xFFFFFFFFFFFFFC00)) =
        [2, 3, 4, 5, 6, 7, 8, 9, 10, 11, 12, 13, 14, 15] := by decide

#print axioms lawful
#print axioms allExceptLS_exact
#print axioms wf_iff_and_mask

end Memchr.Neon
