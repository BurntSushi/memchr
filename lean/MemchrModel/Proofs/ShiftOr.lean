/-
Shift-Or (`src/arch/all/shiftor.rs`): property C12.

`Finder::new(needle)` is `None` exactly for needles longer than 15 bytes and never faults;
`find` returns the leftmost occurrence for every needle of length `<= 15` and every haystack;
neither the overflow-checked shifts nor `i + 1 - needle_len` can fail.

Invariant of the search loop: after consuming `i` haystack bytes, for `j <= needle_len`, bit
`j` of `result` is 0 iff `needle[..j]` is a suffix of `hay[..i]`.  The `u16` shift only drops
bit 15, and `needle_len <= 15`, so bit `needle_len` is never lost.
-/
import MemchrModel.Base.Run
import MemchrModel.Base.Least
import MemchrModel.Model.ShiftOr
import MemchrModel.Proofs.SliceLemmas

namespace Memchr.ShiftOr

/-! ### obligations on the generated constant -/

theorem maskBits_eq : maskBits = 16 := by decide

theorem maxNeedleLen_eq : maxNeedleLen = 15 := by decide

/-- bit `j` of `x` -/
def tb (x : UInt16) (j : Nat) : Bool := x.toBitVec.getLsbD j

theorem tb_or (x y : UInt16) (j : Nat) : tb (x ||| y) j = (tb x j || tb y j) := by
  simp [tb]

theorem tb_and (x y : UInt16) (j : Nat) : tb (x &&& y) j = (tb x j && tb y j) := by
  simp [tb]

theorem tb_not (x : UInt16) (j : Nat) : tb (~~~x) j = (decide (j < 16) && !tb x j) := by
  simp [tb]

theorem tb_zero (j : Nat) : tb 0 j = false := by simp [tb]

theorem tb_one (j : Nat) : tb 1 j = decide (j = 0) := by
  simp [tb, BitVec.getLsbD_one]

theorem tb_shl1 (x : UInt16) (j : Nat) :
    tb (x <<< 1) j = (decide (j < 16) && decide (1 ≤ j) && tb x (j - 1)) := by
  simp only [tb, UInt16.toBitVec_shiftLeft]
  simp
  cases j <;> simp

theorem tb_one_shl (n j : Nat) (h : n < 16) :
    tb ((1 : UInt16) <<< n.toUInt16) j = decide (j = n) := by
  simp [tb, UInt16.toBitVec_shiftLeft, Nat.mod_eq_of_lt h]
  rw [Bool.eq_iff_iff]
  simp
  omega

theorem eq_zero_iff (x : UInt16) : x = 0 ↔ ∀ j, j < 16 → tb x j = false := by
  constructor
  · rintro rfl j _; simp [tb]
  · intro h
    apply UInt16.eq_of_toBitVec_eq
    apply BitVec.eq_of_getLsbD_eq
    intro i hi
    simpa [tb] using h i hi

/-- `x & (1 << n) == 0` tests bit `n` -/
theorem and_bit_eq_zero (x : UInt16) (n : Nat) (h : n < 16) :
    (x &&& ((1 : UInt16) <<< n.toUInt16) == 0) = true ↔ tb x n = false := by
  rw [beq_iff_eq, eq_zero_iff]
  constructor
  · intro hh
    have := hh n h
    rw [tb_and, tb_one_shl n n h] at this
    simpa using this
  · intro hh j _
    rw [tb_and, tb_one_shl n j h]
    by_cases hj : j = n
    · subst hj; simpa using hh
    · simp [hj]

theorem shl1_ok (site : String) {n : Nat} (h : n < 16) :
    shl1 site n = pure ((1 : Mask) <<< n.toUInt16) := by
  simp [shl1, maskBits_eq, h]

theorem shl1_bind {β : Type} {site : String} {n : Nat} {f : Mask → M β} {c : Ctr}
    {Q : β → Ctr → Prop} (h : n < 16) (hf : Holds (f ((1 : Mask) <<< n.toUInt16)) c Q) :
    Holds (shl1 site n >>= f) c Q := by
  rw [shl1_ok site h]
  exact hf

theorem maskAt_maskSet (masks : Vector Mask 256) (b b' : UInt8) (v : Mask) :
    maskAt (maskSet masks b v) b' = if b = b' then v else maskAt masks b' := by
  unfold maskAt maskSet
  rw [Vector.getElem_set]
  by_cases h : b = b'
  · simp [h]
  · have : b.toNat ≠ b'.toNat := fun e => h (UInt8.toNat_inj.mp e)
    simp [h, this]

/-- the table after the first `i` needle bytes: bit `j` of `masks[b]` is 0 iff
`j < i` and `needle[j] = b` -/
def MasksUpTo (needle : Slice) (i : Nat) (masks : Vector Mask 256) : Prop :=
  ∀ (b : UInt8) (j : Nat), j < 16 →
    tb (maskAt masks b) j = !(decide (j < i) && needle.getD j == b)

theorem masksUpTo_init (needle : Slice) :
    MasksUpTo needle 0 (Vector.replicate 256 (~~~(0 : Mask))) := by
  intro b j hj
  simp only [maskAt, Vector.getElem_replicate, tb_not, tb_zero]
  simp [hj]

/-- clearing bit `i` of `masks[needle[i]]` extends the table by one needle byte -/
theorem masksUpTo_succ {needle : Slice} {i : Nat} {masks : Vector Mask 256} (hi : i < 16)
    (h : MasksUpTo needle i masks) :
    MasksUpTo needle (i + 1) (maskSet masks (needle.getD i)
      (maskAt masks (needle.getD i) &&& ~~~((1 : Mask) <<< i.toUInt16))) := by
  intro b j hj
  have hlt : decide (j < i + 1) = (decide (j < i) || decide (j = i)) :=
    Bool.eq_iff_iff.mpr (by simp [Nat.lt_succ_iff_lt_or_eq])
  rw [maskAt_maskSet, hlt]
  by_cases hb : needle.getD i = b
  · subst hb
    rw [if_pos rfl, tb_and, tb_not, tb_one_shl i j hi, h _ j hj]
    by_cases hji : j = i
    · subst hji; simp
    · simp [hji, hj]
  · rw [if_neg hb, h b j hj]
    by_cases hji : j = i
    · subst hji; simp [hb]
    · simp [hji]

theorem newLoop_spec (needle : Slice) (i : Nat) (masks : Vector Mask 256) (c : Ctr)
    (hlen : needle.len ≤ 15) (hi : i ≤ needle.len) (h : MasksUpTo needle i masks) :
    Holds (newLoop needle i masks) c fun masks' c' =>
      c' = c ∧ MasksUpTo needle needle.len masks' := by
  fun_induction newLoop needle i masks generalizing c with
  | case1 i masks hlt byte ih =>
    have hi16 : i < 16 := Nat.lt_of_lt_of_le hlt (Nat.le_succ_of_le hlen)
    apply shl1_bind hi16
    exact ih _ c hlt (masksUpTo_succ hi16 h)
  | case2 i masks hge =>
    obtain rfl : i = needle.len := Nat.le_antisymm hi (Nat.le_of_not_lt hge)
    exact Holds.pure ⟨rfl, h⟩

/-- a finder as built by `Finder::new(needle)` -/
structure Finder.For (f : Finder) (needle : Slice) : Prop where
  len_eq : f.needleLen = needle.len
  len_le : needle.len ≤ 15
  masks : MasksUpTo needle needle.len f.masks

/-- **C12 (construction)** `Finder::new(needle)` never faults, does not touch the counter, is
`None` exactly when `needle.len() > 15`, and otherwise holds the bitap table of the needle. -/
theorem Finder.new_correct (needle : Slice) (c : Ctr) :
    ∃ r, Finder.new needle c = .ok r c ∧ (r = none ↔ needle.len > 15) ∧
      ∀ f, r = some f → f.For needle := by
  unfold Finder.new
  rw [maxNeedleLen_eq]
  by_cases hlen : needle.len > 15
  · rw [if_pos hlen]
    exact ⟨none, rfl, iff_of_true rfl hlen, fun f hf => nomatch hf⟩
  · have hle : needle.len ≤ 15 := Nat.le_of_not_lt hlen
    obtain ⟨masks, _, hrun, rfl, hm⟩ := newLoop_spec needle 0 _ c hle (Nat.zero_le _)
      (masksUpTo_init needle)
    rw [if_neg hlen, bind_ok hrun]
    refine ⟨some ⟨masks, needle.len⟩, rfl, iff_of_false (Option.some_ne_none _) hlen, ?_⟩
    rintro f ⟨⟩
    exact ⟨rfl, hle, hm⟩

/-- `needle[..j]` is a suffix of `hay[..i]` (`s` is where it starts) -/
def Suf (needle hay : Slice) (i j : Nat) : Prop :=
  ∃ s, s + j = i ∧ ∀ k, k < j → hay.getD (s + k) = needle.getD k

theorem suf_zero (needle hay : Slice) (i : Nat) : Suf needle hay i 0 :=
  ⟨i, rfl, fun k hk => absurd hk (Nat.not_lt_zero k)⟩

theorem suf_succ (needle hay : Slice) (i j : Nat) :
    Suf needle hay (i + 1) (j + 1) ↔ Suf needle hay i j ∧ hay.getD i = needle.getD j := by
  constructor
  · rintro ⟨s, hs, h⟩
    obtain rfl : s + j = i := Nat.succ.inj hs
    exact ⟨⟨s, rfl, fun k hk => h k (Nat.lt_succ_of_lt hk)⟩, h j (Nat.lt_succ_self j)⟩
  · rintro ⟨⟨s, rfl, h⟩, hb⟩
    refine ⟨s, rfl, fun k hk => ?_⟩
    rcases Nat.lt_succ_iff_lt_or_eq.mp hk with hlt | rfl
    · exact h k hlt
    · exact hb

/-- the whole needle is a suffix of `hay[..i]` iff it occurs at the offset where that suffix
starts -/
theorem suf_len_iff {needle hay : Slice} (hvn : needle.Valid) (hvh : hay.Valid) {i : Nat}
    (hi : i ≤ hay.len) :
    Suf needle hay i needle.len ↔
      ∃ q, q + needle.len = i ∧ Spec.OccAt hay.toArray needle.toArray q :=
  exists_congr fun q => and_congr_right fun hq => by
    rw [Slice.occAt_iff_getD hvh hvn, and_iff_right (hq ▸ hi)]

/-- one step of the bitap automaton keeps the invariant -/
theorem step_inv {needle hay : Slice} {f : Finder} (hf : f.For needle) (i : Nat) (R : Mask)
    (hinv : ∀ j, j ≤ needle.len → (tb R j = false ↔ Suf needle hay i j)) :
    ∀ j, j ≤ needle.len →
      (tb ((R ||| maskAt f.masks (hay.getD i)) <<< 1) j = false ↔ Suf needle hay (i + 1) j) := by
  intro j hj
  have hl := hf.len_le
  cases j with
  | zero => simp [tb_shl1, suf_zero]
  | succ j =>
    have h16 : j + 1 < 16 := by omega
    rw [tb_shl1, Nat.add_sub_cancel, suf_succ, ← hinv j (Nat.le_of_succ_le hj), tb_or,
      hf.masks (hay.getD i) j (by omega)]
    simp only [h16, Nat.le_add_left, Nat.lt_of_succ_le hj, decide_true, Bool.true_and]
    cases tb R j
    · simp
      exact eq_comm
    · simp

/-- The loop after `i` bytes, no occurrence ending at or before `i`: the leftmost occurrence. -/
theorem findLoop_spec {needle hay : Slice} {f : Finder} (hvn : needle.Valid) (hvh : hay.Valid)
    (hf : f.For needle) (i : Nat) (R : Mask) (c : Ctr) (hi : i ≤ hay.len)
    (hinv : ∀ j, j ≤ needle.len → (tb R j = false ↔ Suf needle hay i j))
    (hno : ∀ q, q + needle.len ≤ i → ¬ Spec.OccAt hay.toArray needle.toArray q) :
    Holds (findLoop f hay i R) c fun r c' =>
      c' = c ∧ IsLeast (Spec.OccAt hay.toArray needle.toArray) 0 (hay.len + 1) r := by
  fun_induction findLoop f hay i R generalizing c with
  | case1 i R hlt byte R1 R2 ih =>
    have hn16 : needle.len < 16 := Nat.lt_succ_of_le hf.len_le
    have hstep := step_inv hf i R hinv
    -- bit `needle_len` of the new state is clear iff an occurrence ends at `i + 1`
    have hends := (hstep needle.len (Nat.le_refl _)).trans (suf_len_iff hvn hvh hlt)
    rw [hf.len_eq]
    apply shl1_bind hn16
    refine Holds.ite (fun hbit => ?_) (fun hbit => ?_)
    · obtain ⟨q, hq, hocc⟩ := hends.mp ((and_bit_eq_zero _ _ hn16).mp hbit)
      rw [csub_eq hq]
      refine Holds.pure ⟨rfl, Nat.zero_le _, ?_, hocc, fun j _ hj => hno j ?_⟩
      · omega
      · omega
    · refine ih c hlt hstep fun q hq ho => ?_
      rcases Nat.lt_or_eq_of_le hq with hlt' | heq
      · exact hno q (Nat.le_of_lt_succ hlt') ho
      · exact hbit ((and_bit_eq_zero _ _ hn16).mpr (hends.mpr ⟨q, heq, ho⟩))
  | case2 i R hge =>
    refine Holds.pure ⟨rfl, fun q _ _ hq => hno q ?_ hq⟩
    have := ((Slice.occAt_iff_getD hvh hvn q).mp hq).1
    omega

/-- `let mut result = !1`: only bit 0 is clear, and only the empty prefix is a suffix of the
empty haystack prefix -/
theorem init_inv (needle hay : Slice) (hl : needle.len ≤ 15) :
    ∀ j, j ≤ needle.len → (tb (~~~(1 : Mask)) j = false ↔ Suf needle hay 0 j) := by
  intro j hj
  have h16 : j < 16 := by omega
  rw [tb_not, tb_one]
  cases j with
  | zero => simp [suf_zero]
  | succ j =>
    simp only [h16, decide_true, Bool.true_and, Nat.succ_ne_zero, decide_false, Bool.not_false,
      Bool.true_eq_false, false_iff]
    rintro ⟨s, hs, -⟩
    cases hs

/-- **C12 (search)** For a finder built for `needle` (`needle.len() <= 15`) and any haystack,
`find` returns the leftmost occurrence, never faults and does not touch the counter. -/
theorem Finder.find_correct {needle hay : Slice} (hvn : needle.Valid) (hvh : hay.Valid)
    {f : Finder} (hf : f.For needle) (c : Ctr) :
    f.find hay c = .ok (Spec.leftmost hay.toArray needle.toArray) c := by
  unfold Finder.find
  by_cases h0 : f.needleLen = 0
  · rw [if_pos (beq_iff_eq.mpr h0),
      Spec.leftmost_empty ((Slice.toArray_size hvn).trans (hf.len_eq ▸ h0))]
    rfl
  · obtain ⟨r, _, hrun, rfl, hres⟩ := findLoop_spec hvn hvh hf 0 (~~~(1 : Mask)) c
      (Nat.zero_le _) (init_inv needle hay hf.len_le) fun q hq =>
        absurd (Nat.le_zero.mp (Nat.le_trans (Nat.le_add_left _ _) hq)) (hf.len_eq ▸ h0)
    rw [if_neg (mt beq_iff_eq.mp h0), ← hres.eq_leftmost fun j hj =>
      Nat.lt_succ_of_le (Slice.toArray_size hvh ▸ hj.le_size)]
    exact hrun

/-- **C12** `Finder::new(needle)` then `find(haystack)`: for every needle of at most 15 bytes
and every haystack, the finder is built and returns `Spec.leftmost`; no fault. -/
theorem shiftOr_correct (needle hay : Slice) (hvn : needle.Valid) (hvh : hay.Valid)
    (hlen : needle.len ≤ 15) (c : Ctr) :
    ∃ f, Finder.new needle c = .ok (some f) c ∧
      f.find hay c = .ok (Spec.leftmost hay.toArray needle.toArray) c := by
  obtain ⟨r, hrun, hnone, hfor⟩ := Finder.new_correct needle c
  cases r with
  | none => have := hnone.mp rfl; omega
  | some f => exact ⟨f, hrun, Finder.find_correct hvn hvh (hfor f rfl) c⟩

/-- **C12** `Finder::new(needle)` is `None` iff `needle.len() > 15` (`MAX_NEEDLE_LEN`) -/
theorem new_eq_none_iff (needle : Slice) (c : Ctr) :
    Finder.new needle c = .ok none c ↔ needle.len > 15 := by
  obtain ⟨r, hrun, hnone, _⟩ := Finder.new_correct needle c
  rw [hrun]
  constructor
  · intro h
    injection h with h1 _
    exact hnone.mp h1
  · intro h
    rw [hnone.mpr h]

/-- **C12** the empty needle matches at offset 0 -/
theorem find_empty (needle hay : Slice) (h : needle.len = 0) (c : Ctr) :
    ∃ f, Finder.new needle c = .ok (some f) c ∧ f.find hay c = .ok (some 0) c := by
  obtain ⟨r, hrun, hnone, hfor⟩ := Finder.new_correct needle c
  cases r with
  | none => have := hnone.mp rfl; omega
  | some f =>
    refine ⟨f, hrun, ?_⟩
    have := (hfor f rfl).len_eq
    simp [Finder.find, this, h]

/-- the hypotheses of `shiftOr_correct` are satisfiable: needle `"aba"` in `"xababa"` -/
example : ∃ f, Finder.new (Slice.ofMem ⟨1, 64, #[97, 98, 97]⟩) {} = .ok (some f) {} ∧
    f.find (Slice.ofMem ⟨0, 4096, #[120, 97, 98, 97, 98, 97]⟩) {} =
      .ok (Spec.leftmost #[120, 97, 98, 97, 98, 97] #[97, 98, 97]) {} :=
  shiftOr_correct (Slice.ofMem ⟨1, 64, #[97, 98, 97]⟩)
    (Slice.ofMem ⟨0, 4096, #[120, 97, 98, 97, 98, 97]⟩)
    (Slice.ofMem_valid _) (Slice.ofMem_valid _) (by decide) {}

end Memchr.ShiftOr
