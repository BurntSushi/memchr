/-
Run lemmas for `searchChunk`, `loadChunks`, `blockHit`, `block`: what they return and how many
steps they take (`searchChunk` and `block` tick once, and a lawful mask operation hands back the
counter it was given).
-/
import MemchrModel.Proofs.MemchrGenericLemmas
import MemchrModel.Proofs.MemchrGenericVec

namespace Memchr.Generic

variable {V : VecImpl}

/-- some byte of the chunk at `a` is a needle -/
def ChunkHit (V : VecImpl) (m : Mem) (p : UInt8 → Bool) (a : Nat) : Prop :=
  ∃ i, i < V.bytes ∧ hitF m p a i = true

theorem noHit_of_not_chunkHit {m : Mem} {p : UInt8 → Bool} {a : Nat}
    (h : ¬ ChunkHit V m p a) : NoHit m p a (a + V.bytes) :=
  NoHit.of_offsets (lo := 0) fun i _ hi =>
    Bool.eq_false_iff.mpr fun hp => h ⟨i, Nat.lt_of_add_lt_add_left hi, hp⟩

theorem firstRes_chunk {m : Mem} {p : UInt8 → Bool} {a k : Nat} (hlt : k < V.bytes)
    (hk : hitF m p a k = true) (hmin : ∀ j, j < k → hitF m p a j = false) :
    FirstRes m p a (a + V.bytes) (some (a + k)) :=
  ⟨Nat.le_add_right _ _, Nat.add_lt_add_left hlt _, hk,
    NoHit.of_offsets (lo := 0) fun j _ hj => hmin j (Nat.lt_of_add_lt_add_left hj)⟩

theorem lastRes_chunk {m : Mem} {p : UInt8 → Bool} {a k : Nat} (hlt : k < V.bytes)
    (hk : hitF m p a k = true) (hmax : ∀ j, k < j → j < V.bytes → hitF m p a j = false) :
    LastRes m p a (a + V.bytes) (some (a + k)) :=
  ⟨Nat.le_add_right _ _, Nat.add_lt_add_left hlt _, hk,
    NoHit.of_offsets (lo := k + 1) fun j hkj hj => hmax j hkj (Nat.lt_of_add_lt_add_left hj)⟩

/-- `topos` (`first_offset` or `last_offset`) and what it promises of the lane it picks (`P`) are
parameters. -/
theorem searchChunk_run (L : Lawful V) (ns : Needles) (m : Mem) (cur : Nat)
    (topos : V.Mask → M Nat) (c : Ctr) (h1 : m.base ≤ cur)
    (h2 : cur + V.bytes ≤ m.base + m.bytes.size) {P : Nat → Prop}
    (htopos : ∀ c', ChunkHit V m ns.confirm cur →
      ∃ k, topos (chunkMask V (chunkEqs V ns (m.window cur V.bytes))) c' = .ok k c' ∧
        k < V.bytes ∧ P k) :
    Holds (searchChunk V ns m cur topos) c (fun r c' => c'.steps = c.steps + 1 ∧
      ((r = none ∧ NoHit m ns.confirm cur (cur + V.bytes)) ∨
        ∃ k, r = some (cur + k) ∧ k < V.bytes ∧ P k)) := by
  unfold searchChunk VecImpl.loadU
  apply Holds.tick_bind
  apply Holds.loadU_bind h1 h2
  simp only [chunkOr_eq]
  have hnz := (MaskRep.movemask L (hitF m ns.confirm cur)).hasNonZero_iff
  refine Holds.ite (fun hh => ?_) (fun hh => ?_)
  · obtain ⟨k, hk, hlt, hp⟩ := htopos _ (hnz.mp hh)
    apply Holds.run_bind hk
    apply Holds.padd_bind h1 (Nat.le_trans (Nat.add_le_add_left (Nat.le_of_lt hlt) _) h2)
    exact Holds.pure ⟨rfl, Or.inr ⟨k, rfl, hlt, hp⟩⟩
  · exact Holds.pure ⟨rfl, Or.inl ⟨rfl, noHit_of_not_chunkHit fun h => hh (hnz.mpr h)⟩⟩

theorem searchChunk_first (L : Lawful V) {ns : Needles} {m : Mem} {cur : Nat} {c : Ctr}
    (h1 : m.base ≤ cur) (h2 : cur + V.bytes ≤ m.base + m.bytes.size) :
    Holds (searchChunk V ns m cur V.firstOffset) c (fun r c' =>
      FirstRes m ns.confirm cur (cur + V.bytes) r ∧ c'.steps = c.steps + 1) := by
  apply Holds.mono (searchChunk_run L ns m cur V.firstOffset c h1 h2
    (fun c' h => (chunkMask_rep L ns m cur).firstOffset h c'))
  rintro r c' ⟨hst, ⟨rfl, hno⟩ | ⟨k, rfl, hlt, hfk, hmin⟩⟩
  · exact ⟨hno, hst⟩
  · exact ⟨firstRes_chunk hlt hfk hmin, hst⟩

theorem searchChunk_last (L : Lawful V) {ns : Needles} {m : Mem} {cur : Nat} {c : Ctr}
    (h1 : m.base ≤ cur) (h2 : cur + V.bytes ≤ m.base + m.bytes.size) :
    Holds (searchChunk V ns m cur V.lastOffset) c (fun r c' =>
      LastRes m ns.confirm cur (cur + V.bytes) r ∧ c'.steps = c.steps + 1) := by
  apply Holds.mono (searchChunk_run L ns m cur V.lastOffset c h1 h2
    (fun c' h => (chunkMask_rep L ns m cur).lastOffset h c'))
  rintro r c' ⟨hst, ⟨rfl, hno⟩ | ⟨k, rfl, hlt, hfk, hmax⟩⟩
  · exact ⟨hno, hst⟩
  · exact ⟨lastRes_chunk hlt hfk hmax, hst⟩

theorem add_succ_mul (cur k b : Nat) : cur + b + k * b = cur + (k + 1) * b := by
  rw [Nat.succ_mul, Nat.add_assoc, Nat.add_comm b]

theorem noHit_chunkAddrs {m : Mem} {p : UInt8 → Bool} {cur : Nat} (k : Nat)
    (h : ∀ b, b ∈ chunkAddrs V cur k → ¬ ChunkHit V m p b) :
    NoHit m p cur (cur + k * V.bytes) := by
  induction k generalizing cur with
  | zero => exact NoHit.empty m p (Nat.le_of_eq (by rw [Nat.zero_mul]; rfl))
  | succ k ih =>
    rw [← add_succ_mul]
    exact (noHit_of_not_chunkHit (h cur (List.mem_cons_self ..))).union
      (ih (fun b hb => h b (List.mem_cons_of_mem _ hb))) (Nat.le_refl _)

theorem chunkAddrs_split {cur u a : Nat} {pre post : List Nat}
    (e : chunkAddrs V cur u = pre ++ a :: post) :
    ∃ j k, pre = chunkAddrs V cur j ∧ cur + j * V.bytes = a ∧
      post = chunkAddrs V (a + V.bytes) k ∧ a + V.bytes + k * V.bytes = cur + u * V.bytes := by
  induction pre generalizing cur u with
  | nil =>
    cases u with
    | zero => cases e
    | succ k =>
      obtain ⟨rfl, rfl⟩ := List.cons.inj e
      exact ⟨0, k, rfl, by rw [Nat.zero_mul]; rfl, rfl, add_succ_mul cur k V.bytes⟩
  | cons x pre ih =>
    cases u with
    | zero => cases e
    | succ u =>
      obtain ⟨rfl, e'⟩ := List.cons.inj e
      obtain ⟨j, k, h1, h2, h3, h4⟩ := ih e'
      exact ⟨j + 1, k, congrArg (cur :: ·) h1, (add_succ_mul cur j V.bytes).symm.trans h2, h3,
        h4.trans (add_succ_mul cur u V.bytes)⟩

theorem mem_chunkAddrs {cur u a : Nat} (h : a ∈ chunkAddrs V cur u) :
    cur ≤ a ∧ a + V.bytes ≤ cur + u * V.bytes := by
  obtain ⟨pre, post, e⟩ := List.append_of_mem h
  obtain ⟨j, k, -, rfl, -, hend⟩ := chunkAddrs_split e
  exact ⟨Nat.le_add_right _ _, hend ▸ Nat.le_add_right _ _⟩

theorem loadChunks_spec (m : Mem) (cur u : Nat) (c : Ctr) (h1 : m.base ≤ cur)
    (h2 : cur + u * V.bytes ≤ m.base + m.bytes.size)
    (h3 : V.alignedLoadChecks = true → cur % V.bytes = 0) :
    Holds (loadChunks V m cur u) c (fun r c' =>
      r = (chunkAddrs V cur u).map (fun a => m.window a V.bytes) ∧ c'.steps = c.steps) := by
  induction u generalizing cur c with
  | zero => exact Holds.pure ⟨rfl, rfl⟩
  | succ k ih =>
    have e := add_succ_mul cur k V.bytes
    unfold loadChunks VecImpl.loadA
    apply Holds.loadA_bind h1 (Nat.le_trans (e ▸ Nat.le_add_right _ _) h2) h3
    apply Holds.bind (ih (cur + V.bytes) _ (Nat.le_trans h1 (Nat.le_add_right _ _)) (e ▸ h2)
      (fun hc => by rw [Nat.add_mod_right]; exact h3 hc))
    rintro _ c' ⟨rfl, hst⟩
    exact Holds.pure ⟨rfl, hst⟩

theorem zip_map_self {α β : Type} (l : List α) (f : α → β) :
    l.zip (l.map f) = l.map (fun a => (a, f a)) := by
  simpa using List.zip_map' (f := id) (g := f) (l := l)

theorem mem_ite_reverse {α : Type} (rev : Bool) (l : List α) (b : α) :
    b ∈ (if rev then l.reverse else l) ↔ b ∈ l := by
  cases rev
  · exact Iff.rfl
  · exact List.mem_reverse

theorem ite_reverse_map {α β : Type} (rev : Bool) (l : List α) (f : α → β) :
    (if rev then (l.map f).reverse else l.map f) = (if rev then l.reverse else l).map f := by
  cases rev
  · rfl
  · exact List.map_reverse.symm

theorem hitPtr_ok (m : Mem) (fn : String) (cur a k : Nat) (topos : V.Mask → M Nat)
    (mask : V.Mask) (c : Ctr) (hk : topos mask c = .ok k c) (h1 : m.base ≤ cur) (h2 : cur ≤ a)
    (h3 : a + k ≤ m.base + m.bytes.size) :
    hitPtr V m fn cur a topos mask c = .ok (some (a + k)) c := by
  have ha : cur + (a - cur) = a := Nat.add_sub_cancel' h2
  unfold hitPtr
  rw [Mem.padd_ok m _ cur (a - cur) h1 (by rw [ha]; exact Nat.le_trans (Nat.le_add_right _ _) h3)]
  simp only [pure_bind', bind_ok hk, Mem.padd_ok m _ a k (Nat.le_trans h1 h2) h3]
  rfl

theorem blockOr_eq (ns : Needles) (m : Mem) (as : List Nat) :
    blockOr V (as.map (fun a => chunkEqs V ns (m.window a V.bytes)))
      = bvec V.bytes (fun i => as.any (fun a => hitF m ns.confirm a i)) := by
  cases as with
  | nil => simp [blockOr, splat_zero_eq]
  | cons a as =>
    have h := foldl_or_bvec V.bytes (as.map (hitF m ns.confirm)) (hitF m ns.confirm a)
    simp only [List.foldl_map, List.any_map, Function.comp_def] at h
    simp only [List.map_cons, blockOr, List.foldl_map, chunkOr_eq, h, List.any_cons]

theorem will_blockOr_iff (L : Lawful V) (ns : Needles) (m : Mem) (as : List Nat) :
    V.willHaveNonZero (blockOr V (as.map (fun a => chunkEqs V ns (m.window a V.bytes)))) = true ↔
      ∃ a, a ∈ as ∧ ChunkHit V m ns.confirm a := by
  rw [blockOr_eq, L.will_iff _ (bvec_length _ _) (bvec_isBool _ _)]
  constructor
  · rintro ⟨i, hi, hlane⟩
    obtain ⟨a, ha, hai⟩ := List.any_eq_true.mp ((bvec_lane _ _ _ hi).symm.trans hlane)
    exact ⟨a, ha, i, hi, hai⟩
  · rintro ⟨a, ha, i, hi, hai⟩
    exact ⟨i, hi, (bvec_lane _ _ _ hi).trans (List.any_eq_true.mpr ⟨a, ha, hai⟩)⟩

section blockHit

variable (m : Mem) (fn : String) (cur : Nat) (topos : V.Mask → M Nat)

theorem blockHit_cons_hit {a : Nat} {e : Vec × List Vec} (rest : List (Nat × (Vec × List Vec)))
    (h : V.hasNonZero (chunkMask V e) = true) :
    blockHit V m fn cur topos ((a, e) :: rest) = hitPtr V m fn cur a topos (chunkMask V e) := by
  cases rest with
  | nil => simp only [blockHit, h, dbgAssert_true, pure_bind']
  | cons y ys => simp only [blockHit, h, if_true]

theorem blockHit_cons_miss {a : Nat} {e : Vec × List Vec} {rest : List (Nat × (Vec × List Vec))}
    (hne : rest ≠ [])
    (h : ¬ V.hasNonZero (chunkMask V e) = true) :
    blockHit V m fn cur topos ((a, e) :: rest) = blockHit V m fn cur topos rest := by
  cases rest with
  | nil => exact absurd rfl hne
  | cons y ys => simp only [blockHit, h, Bool.false_eq_true, if_false]

/-- `blockHit` returns through the first entry (in list order) whose mask is non-zero. -/
theorem blockHit_gen (F : Nat → Vec × List Vec) (as : List Nat)
    (h : ∃ a, a ∈ as ∧ V.hasNonZero (chunkMask V (F a)) = true) :
    ∃ pre a post, as = pre ++ a :: post ∧
      (∀ b, b ∈ pre → ¬ V.hasNonZero (chunkMask V (F b)) = true) ∧
      V.hasNonZero (chunkMask V (F a)) = true ∧
      blockHit V m fn cur topos (as.map (fun a => (a, F a))) =
        hitPtr V m fn cur a topos (chunkMask V (F a)) := by
  induction as with
  | nil => obtain ⟨a, ha, _⟩ := h; cases ha
  | cons x xs ih =>
    by_cases hx : V.hasNonZero (chunkMask V (F x)) = true
    · exact ⟨[], x, xs, rfl, nofun, hx, blockHit_cons_hit m fn cur topos _ hx⟩
    · obtain ⟨a, ha, hz⟩ := h
      have ha' : a ∈ xs := (List.mem_cons.mp ha).resolve_left (fun e => hx (e ▸ hz))
      obtain ⟨pre, a, post, e, hpre, ha, hrun⟩ := ih ⟨a, ha', hz⟩
      refine ⟨x :: pre, a, post, congrArg (x :: ·) e, ?_, ha, ?_⟩
      · intro b hb
        rcases List.mem_cons.mp hb with rfl | hb
        · exact hx
        · exact hpre b hb
      · rw [List.map_cons, blockHit_cons_miss m fn cur topos ?_ hx, hrun]
        exact fun h0 => List.ne_nil_of_mem ha' (List.map_eq_nil_iff.mp h0)

end blockHit

/-- `rev`, `topos` and what `topos` promises of the lane it picks (`P`) are parameters.  A hit is
located by cutting the list of chunk addresses, in the order of inspection, at the first chunk that
holds a needle byte. -/
theorem block_run (L : Lawful V) (ns : Needles) (u : Nat) (rev : Bool) (m : Mem) (cur : Nat)
    (topos : V.Mask → M Nat) (c : Ctr) (h1 : m.base ≤ cur)
    (h2 : cur + u * V.bytes ≤ m.base + m.bytes.size)
    (h3 : V.alignedLoadChecks = true → cur % V.bytes = 0) {P : Nat → Nat → Prop}
    (htopos : ∀ a c', ChunkHit V m ns.confirm a →
      ∃ k, topos (chunkMask V (chunkEqs V ns (m.window a V.bytes))) c' = .ok k c' ∧
        k < V.bytes ∧ P a k) :
    Holds (block V ns u rev m cur topos) c (fun r c' => c'.steps = c.steps + 1 ∧
      ((r = none ∧ NoHit m ns.confirm cur (cur + u * V.bytes)) ∨
        ∃ pre a post k,
          (if rev then (chunkAddrs V cur u).reverse else chunkAddrs V cur u) = pre ++ a :: post ∧
          (∀ b, b ∈ pre → ¬ ChunkHit V m ns.confirm b) ∧
          r = some (a + k) ∧ k < V.bytes ∧ P a k)) := by
  unfold block
  apply Holds.tick_bind
  apply Holds.bind (loadChunks_spec m cur u _ h1 h2 h3)
  rintro _ c' ⟨rfl, hst⟩
  simp only [List.map_map, Function.comp_def]
  rw [zip_map_self, ite_reverse_map]
  have hrep := fun a => (chunkMask_rep L ns m a).hasNonZero_iff
  refine Holds.ite (fun hh => ?_) (fun hh => ?_)
  · obtain ⟨a0, ha0, hit0⟩ := (will_blockOr_iff L ns m _).mp hh
    have hmemIff := mem_ite_reverse rev (chunkAddrs V cur u)
    obtain ⟨pre, a, post, e, hpre, ha, hbh⟩ :=
      blockHit_gen (V := V) m (if rev then "rfind_raw" else "find_raw") cur topos
        (fun a => chunkEqs V ns (m.window a V.bytes))
        (if rev then (chunkAddrs V cur u).reverse else chunkAddrs V cur u)
        ⟨a0, (hmemIff a0).mpr ha0, (hrep a0).mpr hit0⟩
    obtain ⟨k, hk, hlt, hp⟩ := htopos a c' ((hrep a).mp ha)
    obtain ⟨m1, m2⟩ := mem_chunkAddrs
      ((hmemIff a).mp (e ▸ List.mem_append_right _ (List.mem_cons_self ..)))
    refine ⟨some (a + k), c', ?_, hst, Or.inr ⟨pre, a, post, k, e, ?_, rfl, hlt, hp⟩⟩
    · rw [hbh]
      exact hitPtr_ok m _ cur a k _ _ c' hk h1 m1
        (Nat.le_trans (Nat.add_le_add_left (Nat.le_of_lt hlt) _) (Nat.le_trans m2 h2))
    · exact fun b hb hc => hpre b hb ((hrep b).mpr hc)
  · exact Holds.pure ⟨hst, Or.inl ⟨rfl, noHit_chunkAddrs u fun a ha hit =>
      hh ((will_blockOr_iff L ns m _).mpr ⟨a, ha, hit⟩)⟩⟩

theorem block_first (L : Lawful V) {ns : Needles} {u : Nat} {m : Mem} {cur : Nat} {c : Ctr}
    (h1 : m.base ≤ cur) (h2 : cur + u * V.bytes ≤ m.base + m.bytes.size)
    (h3 : V.alignedLoadChecks = true → cur % V.bytes = 0) :
    Holds (block V ns u false m cur V.firstOffset) c (fun r c' =>
      FirstRes m ns.confirm cur (cur + u * V.bytes) r ∧ c'.steps = c.steps + 1) := by
  apply Holds.mono (block_run L ns u false m cur V.firstOffset c h1 h2 h3
    (fun a c' h => (chunkMask_rep L ns m a).firstOffset h c'))
  rintro r c' ⟨hst, ⟨rfl, hno⟩ | ⟨pre, a, post, k, e, hpre, rfl, hlt, hfk, hmin⟩⟩
  · exact ⟨hno, hst⟩
  · obtain ⟨j, n, rfl, rfl, -, hend⟩ := chunkAddrs_split e
    exact ⟨(firstRes_chunk hlt hfk hmin).extend (noHit_chunkAddrs j hpre) (Nat.le_refl _)
      (Nat.le_add_right _ _) (hend ▸ Nat.le_add_right _ _), hst⟩

theorem block_last (L : Lawful V) {ns : Needles} {u : Nat} {m : Mem} {cur : Nat} {c : Ctr}
    (h1 : m.base ≤ cur) (h2 : cur + u * V.bytes ≤ m.base + m.bytes.size)
    (h3 : V.alignedLoadChecks = true → cur % V.bytes = 0) :
    Holds (block V ns u true m cur V.lastOffset) c (fun r c' =>
      LastRes m ns.confirm cur (cur + u * V.bytes) r ∧ c'.steps = c.steps + 1) := by
  apply Holds.mono (block_run L ns u true m cur V.lastOffset c h1 h2 h3
    (fun a c' h => (chunkMask_rep L ns m a).lastOffset h c'))
  rintro r c' ⟨hst, ⟨rfl, hno⟩ | ⟨pre, a, post, k, e, hpre, rfl, hlt, hfk, hmax⟩⟩
  · exact ⟨hno, hst⟩
  · have e' : chunkAddrs V cur u = post.reverse ++ a :: pre.reverse := by
      rw [← List.reverse_reverse (chunkAddrs V cur u), show (chunkAddrs V cur u).reverse = _ from e]
      simp
    obtain ⟨j, n, -, rfl, hpost, hend⟩ := chunkAddrs_split e'
    have hno := noHit_chunkAddrs (V := V) n (cur := cur + j * V.bytes + V.bytes)
      (fun b hb => hpre b (List.mem_reverse.mp (hpost ▸ hb)))
    exact ⟨(lastRes_chunk hlt hfk hmax).extend (hend ▸ hno) (Nat.le_refl _)
      (hend ▸ Nat.le_add_right _ _) (Nat.le_add_right _ _), hst⟩

end Memchr.Generic
