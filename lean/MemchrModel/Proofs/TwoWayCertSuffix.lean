/-
T2 (DESIGN section 8): `Suffix::forward(needle, kind)` computes the start of the maximal suffix
of the needle for the order of `kind` (`<` on bytes for `Maximal`, `>` for `Minimal`; a proper
prefix is smaller) together with the smallest period of that suffix.

The loop `Suffix.forwardLoop` keeps the window invariant `Words.Win` (invariants (I0)-(I4)) for
`x = needle.getD`, `n = needle.len`, `i = suffix.pos`, `L = candidate_start + offset`,
`p = suffix.period`; its three kinds of step are `Words.Win.accept/skip/push`.  The one walk of
the loop (`forwardLoop_spec`) yields the exit invariant and the step bound `2 * len` together.
-/
import MemchrModel.Proofs.TwoWayLemmas
import MemchrModel.Proofs.TwoWayCertWords

namespace Memchr.TwoWay

open Words

/-- the alphabet order of a `SuffixKind`: the suffix computed is maximal for this order -/
def kindLt : SuffixKind → UInt8 → UInt8 → Prop
  | .maximal => fun a b => a < b
  | .minimal => fun a b => b < a

theorem u8_strictTotal : StrictTotal (fun a b : UInt8 => a < b) := by
  refine ⟨fun a h => ?_, fun a b c h1 h2 => ?_, fun a b => ?_⟩
  · rw [UInt8.lt_iff_toNat_lt] at h; omega
  · rw [UInt8.lt_iff_toNat_lt] at *; omega
  · rw [UInt8.lt_iff_toNat_lt, UInt8.lt_iff_toNat_lt, ← UInt8.toNat_inj]; omega

theorem kindLt_strictTotal (kind : SuffixKind) : StrictTotal (kindLt kind) := by
  cases kind
  · exact u8_strictTotal.flip
  · exact u8_strictTotal

/-- the two kinds use opposite orders -/
theorem kindLt_minimal : kindLt .minimal = fun a b => kindLt .maximal b a := rfl

/-- what each answer of `SuffixKind::cmp(current, candidate)` says about the two bytes in the order
of `kind` -/
theorem cmp_cases (kind : SuffixKind) (a b : UInt8) :
    (kind.cmp a b = .accept → kindLt kind a b) ∧ (kind.cmp a b = .skip → kindLt kind b a) ∧
      (kind.cmp a b = .push → a = b) := by
  have anti : ¬ a < b → ¬ b < a → a = b := fun h1 h2 => by
    rw [UInt8.lt_iff_toNat_lt] at h1 h2
    exact UInt8.toNat_inj.mp (by omega)
  cases kind <;> by_cases h1 : a < b <;> by_cases h2 : b < a <;>
    simp [SuffixKind.cmp, kindLt, h1, h2, anti]

/-- the loop invariant of `Suffix::forward`: the window invariant plus the position of the
candidate inside the window, a whole number of periods after the suffix start -/
structure SufWin (n : Slice) (kind : SuffixKind) (s : Suffix) (j k : Nat) : Prop where
  win : Win (kindLt kind) n.getD n.len s.pos (j + k) s.period
  kp : k < s.period
  mul : ∃ m, s.pos + s.period * (m + 1) = j

section

variable {n : Slice} {kind : SuffixKind} {s : Suffix} {j k : Nat}

theorem SufWin.period_le (h : SufWin n kind s j k) : s.pos + s.period ≤ j := by
  obtain ⟨m, hm⟩ := h.mul
  rw [← hm, Nat.mul_succ]
  exact Nat.add_le_add_left (Nat.le_add_left _ _) _

theorem SufWin.lt (h : SufWin n kind s j k) : s.pos < j :=
  Nat.lt_of_lt_of_le (Nat.lt_add_of_pos_right h.win.p1) h.period_le

/-- the candidate is a border start: `x[j..j+k) = x[i..i+k)` -/
theorem SufWin.pref (h : SufWin n kind s j k) (u : Nat) (hu : u < k) :
    n.getD (s.pos + u) = n.getD (j + u) := by
  obtain ⟨m, hm⟩ := h.mul
  rw [h.win.per.mul (s.pos + u) (m + 1) (Nat.le_add_right _ _) (by omega)]
  congr 1
  omega

/-- the byte `current = x[i + k]` is the byte one period before the end of the window -/
theorem SufWin.back (h : SufWin n kind s j k) :
    ∃ a, a + s.period = j + k ∧ n.getD (s.pos + k) = n.getD a := by
  obtain ⟨m, hm⟩ := h.mul
  have hp1 := h.win.p1
  rw [Nat.mul_succ] at hm
  exact ⟨s.pos + k + s.period * m, by omega,
    h.win.per.mul (s.pos + k) m (Nat.le_add_right _ _) (by omega)⟩

end

/-- a potential that grows by at least one pays for the step just taken -/
theorem pot_step {f a b N φ φ' : Nat} (hb : b = a + 1) (hφ : φ + 1 ≤ φ') (ih : f + φ' ≤ b + N) :
    f + φ ≤ a + N := by omega

/-- **T2, loop.**  From a state satisfying the invariant the loop returns normally with the
invariant for the whole needle (`L = len`).  Every iteration increases the potential
`pos + (candidate_start + offset)`, which stays below `2 * len`: that is the step bound. -/
theorem forwardLoop_spec (n : Slice) (kind : SuffixKind) (s : Suffix) (j k : Nat) (c : Ctr)
    (h : SufWin n kind s j k) :
    ∃ s' c', Suffix.forwardLoop n kind s j k c = .ok s' c' ∧
      Win (kindLt kind) n.getD n.len s'.pos n.len s'.period ∧
      c'.steps + (s.pos + (j + k)) ≤ c.steps + 2 * n.len ∧ c'.loads = c.loads := by
  have ho := kindLt_strictTotal kind
  fun_induction Suffix.forwardLoop n kind s j k generalizing c with
  | case1 s j k hlt ih1 ih2 ih3 ih4 =>
    have hpl := h.lt
    have hkp := h.kp
    have hple := h.period_le
    have hpk : s.pos + k < n.len := by omega
    obtain ⟨a, ha, hback⟩ := h.back
    apply Holds.tick_bind
    apply Holds.get_bind hpk
    apply Holds.get_bind hlt
    cases hc : kind.cmp (n.getD (s.pos + k)) (n.getD (j + k)) with
    | accept =>
      refine Holds.mono (ih1 _ ⟨h.win.accept ho hpl rfl hlt h.pref ((cmp_cases kind _ _).1 hc),
        Nat.zero_lt_one, 0, rfl⟩) ?_
      rintro s' c' ⟨w, hst, hl⟩
      exact ⟨w, pot_step rfl (by simp only; omega) hst, hl⟩
    | skip =>
      have hle : s.pos ≤ j + (k + 1) := Nat.le_trans (Nat.le_of_lt hpl) (Nat.le_add_right _ _)
      have hsk := (cmp_cases kind _ _).2.1 hc
      rw [hback] at hsk
      apply Holds.csub_bind hle
      refine Holds.mono (ih2 (j + (k + 1) - s.pos) _
        ⟨h.win.skip ho hlt ha hsk, Nat.sub_pos_of_lt (Nat.lt_add_right _ hpl), 0, by
          rw [Nat.mul_one]; exact Nat.add_sub_cancel' hle⟩) ?_
      rintro s' c' ⟨w, hst, hl⟩
      exact ⟨w, pot_step rfl (Nat.le_refl _) hst, hl⟩
    | push =>
      have heq := (cmp_cases kind _ _).2.2 hc
      rw [hback] at heq
      have w := h.win.push ho hlt ha heq.symm
      refine Holds.dite (fun hp => ?_) (fun hp => ?_)
      · obtain ⟨m, hm⟩ := h.mul
        refine Holds.mono (ih3 hp _
          ⟨(congrArg (j + ·) hp : j + k + 1 = j + s.period + 0) ▸ w, h.win.p1, m + 1, by
            rw [Nat.mul_succ, ← Nat.add_assoc, hm]⟩) ?_
        rintro s' c' ⟨w', hst, hl⟩
        exact ⟨w', pot_step rfl (by omega) hst, hl⟩
      · refine Holds.mono (ih4 _ ⟨w, Nat.lt_of_le_of_ne hkp hp, h.mul⟩) ?_
        rintro s' c' ⟨w', hst, hl⟩
        exact ⟨w', pot_step rfl (Nat.le_refl _) hst, hl⟩
  | case2 s j k hlt =>
    have hL : j + k = n.len := Nat.le_antisymm h.win.le (Nat.le_of_not_lt hlt)
    have hpl := h.lt
    exact Holds.pure ⟨hL ▸ h.win, by omega, rfl⟩

/-- **T2.**  `Suffix::forward(needle, kind)` on a non-empty needle takes at most `2 * len` steps
and returns a position `pos` and a period `period` such that (`Win` with `L = len`): the suffix
at `pos` is the maximal suffix for the order of `kind` (`Win.left`, `Win.right`), and `period`
is the smallest period of `needle[pos..]` (`Win.per`, `Win.minp`), with `pos + period <= len`. -/
theorem suffix_forward_full (n : Slice) (kind : SuffixKind) (c : Ctr) (hn : 0 < n.len) :
    ∃ s' c', Suffix.forward n kind c = .ok s' c' ∧
      Win (kindLt kind) n.getD n.len s'.pos n.len s'.period ∧
      c'.steps ≤ c.steps + 2 * n.len ∧ c'.loads = c.loads := by
  obtain ⟨s', c', e, w, hst, hl⟩ := forwardLoop_spec n kind { pos := 0, period := 1 }
    (j := 1) (k := 0) c ⟨Win.init hn, Nat.zero_lt_one, 0, rfl⟩
  exact ⟨s', c', e, w, by omega, hl⟩

theorem suffix_forward_win (n : Slice) (kind : SuffixKind) (c : Ctr) (hn : 0 < n.len) :
    ∃ s' c', Suffix.forward n kind c = .ok s' c' ∧
      Win (kindLt kind) n.getD n.len s'.pos n.len s'.period :=
  let ⟨s', c', e, w, _⟩ := suffix_forward_full n kind c hn
  ⟨s', c', e, w⟩

theorem suffix_forward_empty (n : Slice) (kind : SuffixKind) (c : Ctr) (hn : n.len = 0) :
    Suffix.forward n kind c = .ok { pos := 0, period := 1 } c := by
  unfold Suffix.forward Suffix.forwardLoop
  simp [hn]

#print axioms suffix_forward_win

end Memchr.TwoWay
