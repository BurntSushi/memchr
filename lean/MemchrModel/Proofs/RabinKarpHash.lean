/-
The Rabin-Karp rolling hash: the hash of a byte string is the fold of `Hash.add`; rolling the
window by one byte updates it (`roll_spec`); `Hash::forward` / `Hash::reverse` /
`Finder::new` / `FinderRev::new` compute it.
-/
import MemchrModel.Base.Run
import MemchrModel.Model.RabinKarp
import MemchrModel.Proofs.SliceLemmas

namespace Memchr.RabinKarp

/-- the hash of a byte string: `add` every byte, starting from `Hash::new()` -/
def H (l : List UInt8) : UInt32 := l.foldl Hash.add 0

/-- `2^k` computed the way `Finder::new` does (`wrapping_shl(1)` starting from 1) -/
def pow2 : Nat → UInt32
  | 0 => 1
  | k + 1 => pow2 k <<< 1

/-- the finder `Finder::new` builds for a needle with these bytes -/
def Finder.spec (l : List UInt8) : Finder := { hash := H l, hash2pow := pow2 (l.length - 1) }

/-- `wrapping_shl(1)` is multiplication by 2 -/
theorem shl_one (x : UInt32) : x <<< 1 = x * 2 := by
  apply UInt32.toNat_inj.mp
  rw [UInt32.toNat_shiftLeft, UInt32.toNat_mul]
  simp [Nat.shiftLeft_eq]

theorem add_eq (h : Hash) (b : UInt8) : Hash.add h b = h * 2 + b.toUInt32 := by
  simp only [Hash.add, shl_one]

theorem pow2_succ (k : Nat) : pow2 (k + 1) = pow2 k * 2 := by
  simp only [pow2, shl_one]

@[simp] theorem H_nil : H [] = 0 := rfl

theorem foldl_add (acc : UInt32) (l : List UInt8) :
    l.foldl Hash.add acc = acc * pow2 l.length + H l := by
  induction l generalizing acc with
  | nil => simp [pow2]
  | cons a t ih =>
    simp only [H, List.foldl_cons, List.length_cons]
    rw [ih (Hash.add acc a), ih (Hash.add 0 a), add_eq, add_eq, pow2_succ]
    simp only [H]
    grind

theorem H_cons (a : UInt8) (t : List UInt8) : H (a :: t) = a.toUInt32 * pow2 t.length + H t := by
  simp only [H, List.foldl_cons]
  rw [foldl_add, add_eq]
  simp only [H]
  grind

theorem H_append_one (t : List UInt8) (b : UInt8) : H (t ++ [b]) = Hash.add (H t) b := by
  simp [H, List.foldl_append]

/-- rolling: removing the first byte and appending a new one -/
theorem roll_spec (f : Finder) (a b : UInt8) (t : List UInt8)
    (hf : f.hash2pow = pow2 t.length) : Hash.roll (H (a :: t)) f a b = H (t ++ [b]) := by
  rw [H_append_one, Hash.roll, Hash.del, hf, H_cons]
  congr 1
  grind

theorem roll_window_fwd (f : Finder) (m : Mem) (cur nlen : Nat) (hn : 1 ≤ nlen)
    (hf : f.hash2pow = pow2 (nlen - 1)) :
    Hash.roll (H (m.window cur nlen)) f (m.byteAt cur) (m.byteAt (cur + nlen)) =
      H (m.window (cur + 1) nlen) := by
  obtain ⟨k, rfl⟩ : ∃ k, nlen = k + 1 := ⟨nlen - 1, by omega⟩
  rw [Mem.window_succ m cur k, Mem.window_succ_last m (cur + 1) k, Nat.add_assoc cur 1 k,
    Nat.add_comm 1 k]
  refine roll_spec f _ _ _ ?_
  simpa using hf

/-- `cur` is the start of the new window -/
theorem roll_window_rev (f : Finder) (m : Mem) (cur nlen : Nat) (hn : 1 ≤ nlen)
    (hf : f.hash2pow = pow2 (nlen - 1)) :
    Hash.roll (H (m.window (cur + 1) nlen).reverse) f (m.byteAt (cur + nlen)) (m.byteAt cur) =
      H (m.window cur nlen).reverse := by
  obtain ⟨k, rfl⟩ : ∃ k, nlen = k + 1 := ⟨nlen - 1, by omega⟩
  rw [Mem.window_succ m cur k, Mem.window_succ_last m (cur + 1) k, Nat.add_assoc cur 1 k,
    Nat.add_comm 1 k]
  simp only [List.reverse_append, List.reverse_cons, List.reverse_nil, List.nil_append,
    List.singleton_append]
  refine roll_spec f _ _ _ ?_
  simpa using hf

theorem forwardLoop_run (m : Mem) (start len end_ : Nat) (hash : Hash) (c : Ctr)
    (hlen : start + len = end_) (h1 : m.base ≤ start) (h3 : end_ ≤ m.base + m.bytes.size) :
    Holds (Hash.forwardLoop m end_ start hash) c fun r c' =>
      r = (m.window start len).foldl Hash.add hash ∧ c'.steps = c.steps + len := by
  induction len generalizing start hash c with
  | zero =>
    obtain rfl : start = end_ := hlen
    rw [Hash.forwardLoop, dif_neg (Nat.lt_irrefl _)]
    exact Holds.pure ⟨rfl, rfl⟩
  | succ len ih =>
    have hlt : start < end_ := by omega
    rw [Hash.forwardLoop, dif_pos hlt]
    apply Holds.tick_bind
    apply Holds.read_bind h1 (Nat.lt_of_lt_of_le hlt h3)
    apply Holds.padd_bind h1 (Nat.le_trans hlt h3)
    apply Holds.mono (ih (start + 1) _ _ (by omega) (Nat.le_succ_of_le h1))
    intro r c' ⟨hr, hs⟩
    exact ⟨hr.trans (by rw [Mem.window_succ, List.foldl_cons]),
      hs.trans (Nat.add_right_comm c.steps 1 len)⟩

theorem forward_run (m : Mem) (start len end_ : Nat) (c : Ctr)
    (hlen : start + len = end_) (h1 : m.base ≤ start) (h3 : end_ ≤ m.base + m.bytes.size) :
    Holds (Hash.forward m start end_) c fun r c' =>
      r = H (m.window start len) ∧ c'.steps = c.steps + len :=
  forwardLoop_run m start len end_ Hash.new c hlen h1 h3

theorem reverseLoop_run (m : Mem) (start len end_ : Nat) (hash : Hash) (c : Ctr)
    (hlen : start + len = end_) (h1 : m.base ≤ start) (h3 : end_ ≤ m.base + m.bytes.size) :
    Holds (Hash.reverseLoop m start end_ hash) c fun r c' =>
      r = (m.window start len).reverse.foldl Hash.add hash ∧ c'.steps = c.steps + len := by
  induction len generalizing end_ hash c with
  | zero =>
    obtain rfl : start = end_ := hlen
    rw [Hash.reverseLoop, dif_neg (Nat.lt_irrefl _)]
    exact Holds.pure ⟨rfl, rfl⟩
  | succ len ih =>
    subst hlen
    rw [Hash.reverseLoop, dif_pos (by omega)]
    apply Holds.tick_bind
    apply Holds.psub_bind (by omega) h3
    apply Holds.read_bind (a := start + len) (by omega) (by omega)
    apply Holds.mono (ih _ _ _ rfl (by omega))
    intro r c' ⟨hr, hs⟩
    refine ⟨hr.trans ?_, hs.trans (Nat.add_right_comm c.steps 1 len)⟩
    rw [Mem.window_succ_last, List.reverse_append]
    rfl

theorem reverse_run (m : Mem) (start len end_ : Nat) (c : Ctr)
    (hlen : start + len = end_) (h1 : m.base ≤ start) (h3 : end_ ≤ m.base + m.bytes.size) :
    Holds (Hash.reverse m start end_) c fun r c' =>
      r = H (m.window start len).reverse ∧ c'.steps = c.steps + len :=
  reverseLoop_run m start len end_ Hash.new c hlen h1 h3

theorem newLoop_run (rest : List UInt8) (s : Finder) (c : Ctr) :
    newLoop rest s c =
      .ok { hash := rest.foldl Hash.add s.hash, hash2pow := s.hash2pow * pow2 rest.length }
        { c with steps := c.steps + rest.length } := by
  induction rest generalizing s c with
  | nil => simp [newLoop, pow2]
  | cons b t ih =>
    simp only [newLoop, M.bind_run, tick_run, ih, List.foldl_cons, List.length_cons, pow2_succ,
      shl_one]
    congr 2
    · grind
    · simp only [Nat.add_assoc, Nat.add_comm 1]

/-- `Finder::new` / `FinderRev::new` on a byte sequence: the finder `Finder.spec`, one tick
per byte after the first, no load -/
theorem newOfBytes_run (l : List UInt8) (c : Ctr) :
    newOfBytes l c = .ok (Finder.spec l) { c with steps := c.steps + (l.length - 1) } := by
  cases l with
  | nil => simp [newOfBytes, Finder.spec, pow2, Hash.new]
  | cons a t =>
    simp only [newOfBytes, newLoop_run, Finder.spec, List.length_cons, Nat.add_sub_cancel, H,
      List.foldl_cons, Hash.new]
    congr 2
    grind

theorem Finder.new_run (needle : Slice) (c : Ctr) :
    Finder.new needle c =
      .ok (Finder.spec needle.toList) { c with steps := c.steps + (needle.len - 1) } := by
  rw [Finder.new, newOfBytes_run, Slice.toList_length]

theorem FinderRev.new_run (needle : Slice) (c : Ctr) :
    FinderRev.new needle c =
      .ok ⟨Finder.spec needle.toList.reverse⟩
        { c with steps := c.steps + (needle.len - 1) } := by
  simp only [FinderRev.new, M.bind_run, newOfBytes_run, List.length_reverse,
    Slice.toList_length, M.pure_run]

end Memchr.RabinKarp
