/-
Packed pair `find` and `find_prefilter`: the tail and the main loop of each, over offsets from
`start`.  `find` is treated for an arbitrary search needle (`Proofs/PackedPair.lean` specialises
to the construction needle).  "Good": the search needle fits in the region up to the end of the
haystack, the answer is the first hit.  "Bad": it does not, and the first pair match in a
main-loop chunk faults.  The tail of `find_prefilter` is re-aligned to
`max = end - min_haystack_len` and unmasked.
-/
import MemchrModel.Proofs.PackedPairLemmas

namespace Memchr.PackedPair

open Memchr.Generic

variable {V : VecImpl}

/-- the tail is entered at offset `m + o` with `1 ≤ o ≤ BYTES`.  In this order: `cur < end`;
`cur` is an address of the region (two bounds); so is `max` (lower bound); `max < cur` -/
theorem tail_geom {base size start m minLen B o E : Nat} (hb : base ≤ start)
    (hend : start + m + minLen = E) (he : E ≤ base + size) (hB : B < minLen) (ho1 : 1 ≤ o)
    (ho2 : o ≤ B) :
    start + (m + o) < E ∧ base ≤ start + (m + o) ∧ start + (m + o) ≤ base + size ∧
      base ≤ start + m ∧ start + m < start + (m + o) := by
  omega

/-- what `rem = end.distance(cur)` is in the tail of `find`.  In this order: less than
`min_haystack_len`; no more than the region holds up to `end`; a needle longer than `rem` fits at
no offset from `m + o` on -/
theorem tail_rem_geom {base start m minLen o rem E : Nat} (hb : base ≤ start)
    (hend : start + m + minLen = E) (ho1 : 1 ≤ o) (hrem : rem + (start + (m + o)) = E) :
    rem < minLen ∧ base + rem ≤ E ∧ ∀ nl q, rem < nl → m + o ≤ q → ¬ start + q + nl ≤ E :=
  ⟨by omega, by omega, fun nl q h1 h2 => by omega⟩

/-- The tail of `find` for any search needle: if the needle fits into what is left, it fits into
the region, so the chunk at `max` is searched like those of the main loop. -/
theorem findTail_spec (L : Lawful V) {f : Finder} {hm : Mem} {needle : Slice}
    {start m end_ o : Nat} (c : Ctr) (G : Geom V f hm start m end_) (hv : needle.Valid)
    (ho1 : 1 ≤ o) (ho2 : o ≤ V.bytes)
    (hno : IsLeast (HitO f hm needle start end_) 0 (m + o) none) :
    Holds (findTail V f hm needle start end_ (start + m) (start + (m + o))) c fun r c' =>
      IsLeast (HitO f hm needle start end_) 0 (m + V.bytes) r ∧
      c'.steps ≤ c.steps + chunkCost V needle := by
  obtain ⟨hlt, hcur1, hcur2, hmax, hmc⟩ := tail_geom G.hb G.hend G.he G.hmin2 ho1 ho2
  obtain ⟨-, g2, -, g4⟩ := chunk_geom G.hb G.hend G.he G.hmin (Nat.le_refl m)
  unfold findTail
  refine Holds.ite (fun _ => ?_) (fun h => absurd hlt h)
  apply Holds.distance_bind' hcur1 (Nat.le_of_lt hlt) G.he
  intro rem hrem
  obtain ⟨hremlt, hremb, tshort⟩ := tail_rem_geom G.hb G.hend ho1 hrem
  apply Holds.dbgAssert_bind' hremlt
  refine Holds.ite (fun hshort => ?_) (fun hfits => ?_)
  · refine Holds.pure ⟨fun q _ _ hh => ?_, Nat.le_add_right _ _⟩
    by_cases hq : q < m + o
    · exact hno q (Nat.zero_le _) hq hh
    · exact tshort needle.len q hshort (Nat.le_of_not_lt hq) hh.2.1
  · have hgood : hm.base + needle.len ≤ end_ :=
      Nat.le_trans (Nat.add_le_add_left (Nat.le_of_not_lt hfits) _) hremb
    apply Holds.dbgAssert_bind' hmc
    apply Holds.distance_bind' hmax (Nat.le_of_lt hmc) hcur2
    intro o' ho'
    obtain rfl : o = o' := by omega
    apply Holds.dbgAssert_bind' (show o > 0 from ho1)
    refine Holds.ite (fun hge => ?_) (fun hnge => ?_)
    · obtain rfl : o = V.bytes := Nat.le_antisymm ho2 hge
      exact Holds.pure ⟨hno, Nat.le_add_right _ _⟩
    · have hov : o < V.bytes := Nat.lt_of_not_le hnge
      obtain ⟨km, hkm, hkeeps⟩ := L.allExceptLS_spec o c hov
      apply Holds.dbgAssert_bind' hov
      apply Holds.run_bind hkm
      -- the chunk at `m` again: its lanes below the overlap `o` are offsets that `hno` excludes
      apply Holds.bind (findInChunk_good L c hv hmax g2 G.he hgood hkeeps
        (fun k hk => hno (m + k) (Nat.zero_le _) (Nat.add_lt_add_left hk m)))
      intro r c' ⟨hres, hcost⟩
      have hd := (hno.none_mono (Nat.le_add_right m o)).chunk_done hres (Nat.le_refl _)
      cases r with
      | some k => exact matched_bind G.hb g4 (Holds.pure ⟨hd, hcost⟩)
      | none => exact Holds.pure ⟨hd, hcost⟩

/-- a search needle that does not fit into the region up to `end` is longer than what is left:
the tail answers `None` without looking at a chunk -/
theorem findTail_bad {f : Finder} {hm : Mem} (needle : Slice) {start m end_ o : Nat} (c : Ctr)
    (G : Geom V f hm start m end_) (hbad : end_ < hm.base + needle.len) (ho1 : 1 ≤ o)
    (ho2 : o ≤ V.bytes) :
    Holds (findTail V f hm needle start end_ (start + m) (start + (m + o))) c fun r _ =>
      r = none := by
  obtain ⟨hlt, hcur1, -⟩ := tail_geom G.hb G.hend G.he G.hmin2 ho1 ho2
  unfold findTail
  refine Holds.ite (fun _ => ?_) (fun h => absurd hlt h)
  apply Holds.distance_bind' hcur1 (Nat.le_of_lt hlt) G.he
  intro rem hrem
  obtain ⟨hremlt, hremb, -⟩ := tail_rem_geom G.hb G.hend ho1 hrem
  apply Holds.dbgAssert_bind' hremlt
  exact Holds.ite (fun _ => Holds.pure rfl)
    (fun h => absurd (Nat.lt_of_add_lt_add_left (Nat.lt_of_le_of_lt hremb hbad)) h)

/-- the last chunk looked at (`a` chunks lie before it, at most `b` before the tail) -/
theorem last_chunk {s s1 K a b : Nat} (h1 : s1 ≤ s + K) (hab : a ≤ b) :
    s1 + a * K ≤ s + (b + 1) * K := by
  have := Nat.mul_le_mul_right K hab
  rw [Nat.add_mul, Nat.one_mul]
  omega

/-- One chunk cost per chunk up to the one that answers (all of them and one for the tail when
the answer is `None`), in budget form: `i / BYTES` chunks lie before offset `i`. -/
theorem findLoop_good (L : Lawful V) {f : Finder} {hm : Mem} {needle : Slice}
    {start m end_ : Nat} {all : V.Mask} (G : Geom V f hm start m end_) (hv : needle.Valid)
    (hgood : hm.base + needle.len ≤ end_) (hall : KeepsFrom L 0 all)
    (i cur : Nat) (hcur : cur = start + i) (c : Ctr) (h2 : i ≤ m + V.bytes)
    (hno : IsLeast (HitO f hm needle start end_) 0 i none) :
    Holds (findLoop V f hm needle start end_ (start + m) all cur) c fun r c' =>
      IsLeast (HitO f hm needle start end_) 0 (m + V.bytes) r ∧
      c'.steps + i / V.bytes * chunkCost V needle ≤
        c.steps + (r.getD (m + V.bytes) / V.bytes + 1) * chunkCost V needle := by
  fun_induction findLoop V f hm needle start end_ (start + m) all cur generalizing i c with
  | case1 cur h ih =>
    subst hcur
    have him : i ≤ m := Nat.le_of_add_le_add_left h
    obtain ⟨g1, g2, g3, g4⟩ := chunk_geom G.hb G.hend G.he G.hmin him
    apply Holds.bind (findInChunk_good L c hv g1 g2 G.he hgood hall
      (fun k hk => absurd hk (Nat.not_lt_zero k)))
    intro r c1 ⟨hres, hcost⟩
    have hd := hno.chunk_done hres (Nat.add_le_add_right him _)
    cases r with
    | some k =>
      exact matched_bind G.hb g4 (Holds.pure
        ⟨hd, last_chunk hcost (Nat.div_le_div_right (Nat.le_add_right i k))⟩)
    | none =>
      apply Holds.padd_bind g1 g3
      apply Holds.mono (ih (i + V.bytes) (Nat.add_assoc _ _ _) c1 (Nat.add_le_add_right him _) hd)
      intro r c' ⟨hfr, hc'⟩
      rw [Nat.add_div_right _ V.bytes_pos] at hc'
      exact ⟨hfr, budget_trans (last_chunk hcost (Nat.le_refl _)) hc'⟩
  | case2 cur h =>
    subst hcur
    obtain ⟨o, rfl⟩ : ∃ o, i = m + o := ⟨i - m, by omega⟩
    have ho2 : o ≤ V.bytes := Nat.le_of_add_le_add_left h2
    apply Holds.mono (findTail_spec L c G hv (by omega) ho2 hno)
    intro r c' ⟨hfr, hc'⟩
    exact ⟨hfr, last_chunk hc' (Nat.div_le_div_right
      (hno.le_getD hfr (Nat.add_le_add_left ho2 m)))⟩

/-- The main-loop chunks are those at offsets `i, i + BYTES, ..` up to `m`: offset `i + d` lies
in one of them iff `i + d ≤ m + d % BYTES`. -/
theorem findLoop_bad (L : Lawful V) {f : Finder} {hm : Mem} (needle : Slice)
    {start m end_ : Nat} {all : V.Mask} (G : Geom V f hm start m end_)
    (hbad : end_ < hm.base + needle.len) (hall : KeepsFrom L 0 all)
    (i cur : Nat) (hcur : cur = start + i) (c : Ctr) (h2 : i ≤ m + V.bytes) :
    ((∃ d, i + d ≤ m + d % V.bytes ∧ CandO f hm start (i + d)) ∧
      findLoop V f hm needle start end_ (start + m) all cur c =
        .fault (.ptrOob "find_in_chunk: end.sub(needle.len())")) ∨
    ((∀ d, i + d ≤ m + d % V.bytes → ¬ CandO f hm start (i + d)) ∧
      ∃ c', findLoop V f hm needle start end_ (start + m) all cur c = .ok none c') := by
  fun_induction findLoop V f hm needle start end_ (start + m) all cur generalizing i c with
  | case1 cur h ih =>
    subst hcur
    have him : i ≤ m := Nat.le_of_add_le_add_left h
    obtain ⟨g1, g2, g3, -⟩ := chunk_geom G.hb G.hend G.he G.hmin him
    rcases findInChunk_bad L needle c g1 g2 G.he hbad hall with
      ⟨⟨j, hj, hcj⟩, hrun⟩ | ⟨hnone, c1, hrun⟩
    · refine Or.inl ⟨⟨j, ?_, hcj⟩, bind_fault hrun⟩
      rw [Nat.mod_eq_of_lt hj]
      exact Nat.add_le_add_right him j
    · rw [bind_ok hrun]
      simp only [Mem.padd_ok hm _ (start + i) V.bytes g1 g3, pure_bind']
      rcases ih (i + V.bytes) (Nat.add_assoc _ _ _) c1 (Nat.add_le_add_right him _) with
        ⟨⟨d, hd, hcd⟩, hrun'⟩ | ⟨hnone', hrun'⟩
      · refine Or.inl ⟨⟨V.bytes + d, ?_, ?_⟩, hrun'⟩
        · rw [Nat.add_mod_left, ← Nat.add_assoc]
          exact hd
        · rw [← Nat.add_assoc]
          exact hcd
      · refine Or.inr ⟨fun d hd hc => ?_, hrun'⟩
        by_cases hdB : d < V.bytes
        · exact hnone d hdB hc
        · obtain ⟨d', rfl⟩ := Nat.exists_eq_add_of_le (Nat.le_of_not_lt hdB)
          rw [Nat.add_mod_left, ← Nat.add_assoc] at hd
          rw [← Nat.add_assoc] at hc
          exact hnone' d' hd hc
  | case2 cur h =>
    subst hcur
    obtain ⟨o, rfl⟩ : ∃ o, i = m + o := ⟨i - m, by omega⟩
    obtain ⟨_, c', hrun, rfl⟩ := findTail_bad needle c G hbad (by omega)
      (Nat.le_of_add_le_add_left h2)
    refine Or.inr ⟨fun d hd _ => ?_, c', hrun⟩
    have := Nat.mod_le d V.bytes
    omega

theorem prefilterTail_spec (L : Lawful V) {f : Finder} {hm : Mem} {start m end_ o : Nat}
    (c : Ctr) (G : Geom V f hm start m end_) (ho1 : 1 ≤ o) (ho2 : o ≤ V.bytes)
    (hno : IsLeast (CandO f hm start) 0 (m + o) none) :
    Holds (prefilterTail V f hm start end_ (start + m) (start + (m + o))) c fun r c' =>
      IsLeast (CandO f hm start) 0 (m + V.bytes) r ∧ c'.steps = c.steps + 1 := by
  obtain ⟨g1, g2, -, g4⟩ := chunk_geom G.hb G.hend G.he G.hmin (Nat.le_refl m)
  unfold prefilterTail
  refine Holds.ite (fun _ => ?_)
    (fun h => absurd (tail_geom G.hb G.hend G.he G.hmin2 ho1 ho2).1 h)
  apply Holds.bind (findPrefilterInChunk_spec L f hm start m c g1 (Nat.le_trans g2 G.he))
  intro r c' ⟨hres, hc'⟩
  have hd := (hno.none_mono (Nat.le_add_right m o)).chunk_done hres (Nat.le_refl _)
  cases r with
  | some k => exact matched_bind G.hb g4 (Holds.pure ⟨hd, hc'⟩)
  | none => exact Holds.pure ⟨hd, hc'⟩

/-- One step per chunk, in budget form: `i / BYTES` chunks lie before offset `i`, and the scan
ends at the answer, or at `m + BYTES` without one. -/
theorem prefilterLoop_spec (L : Lawful V) {f : Finder} {hm : Mem} {start m end_ : Nat}
    (G : Geom V f hm start m end_) (i cur : Nat) (hcur : cur = start + i) (c : Ctr)
    (h2 : i ≤ m + V.bytes) (hno : IsLeast (CandO f hm start) 0 i none) :
    Holds (prefilterLoop V f hm start end_ (start + m) cur) c fun r c' =>
      IsLeast (CandO f hm start) 0 (m + V.bytes) r ∧
      c'.steps + i / V.bytes ≤ c.steps + (r.getD (m + V.bytes) / V.bytes + 1) := by
  fun_induction prefilterLoop V f hm start end_ (start + m) cur generalizing i c with
  | case1 cur h ih =>
    subst hcur
    have him : i ≤ m := Nat.le_of_add_le_add_left h
    obtain ⟨g1, g2, g3, g4⟩ := chunk_geom G.hb G.hend G.he G.hmin him
    apply Holds.bind (findPrefilterInChunk_spec L f hm start i c g1 (Nat.le_trans g2 G.he))
    intro r c1 ⟨hres, hc1⟩
    have hd := hno.chunk_done hres (Nat.add_le_add_right him _)
    cases r with
    | some k =>
      refine matched_bind G.hb g4 (Holds.pure ⟨hd, ?_⟩)
      have := Nat.div_le_div_right (c := V.bytes) (hno.le_getD hd h2)
      omega
    | none =>
      apply Holds.padd_bind g1 g3
      apply Holds.mono (ih (i + V.bytes) (Nat.add_assoc _ _ _) c1 (Nat.add_le_add_right him _) hd)
      intro r c' ⟨hres', hc'⟩
      rw [Nat.add_div_right _ V.bytes_pos] at hc'
      exact ⟨hres', budget_trans (by omega) hc'⟩
  | case2 cur h =>
    subst hcur
    obtain ⟨o, rfl⟩ : ∃ o, i = m + o := ⟨i - m, by omega⟩
    apply Holds.mono (prefilterTail_spec L c G (by omega) (Nat.le_of_add_le_add_left h2) hno)
    intro r c' ⟨hres, hc'⟩
    refine ⟨hres, ?_⟩
    have := Nat.div_le_div_right (c := V.bytes) (hno.le_getD hres h2)
    omega

end Memchr.PackedPair
