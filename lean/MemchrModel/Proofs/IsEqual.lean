/-
`is_equal_raw` / `is_equal` / `is_prefix` / `is_suffix` coincide with slice comparison (C18).
-/
import MemchrModel.Base.Run
import MemchrModel.Model.IsEqual
import MemchrModel.Proofs.SliceLemmas

namespace Memchr.IsEqual

/-- One round of `is_equal_raw`: compare `w` bytes and go on with the remaining `k` only if they
agree. -/
theorem chunk_run {mx my : Mem} {x y w k K : Nat} {rest : M Bool} (c : Ctr)
    (hx1 : mx.base ≤ x) (hx2 : x + (w + k) ≤ mx.base + mx.bytes.size)
    (hy1 : my.base ≤ y) (hy2 : y + (w + k) ≤ my.base + my.bytes.size)
    (hrest : ∀ c1 : Ctr, Holds rest c1 fun r c' =>
      r = decide (mx.window (x + w) k = my.window (y + w) k) ∧ c'.steps ≤ c1.steps + K) :
    Holds (do
        tick
        let vx ← mx.loadU x w
        let vy ← my.loadU y w
        if vx != vy then pure false else rest) c fun r c' =>
      r = decide (mx.window x (w + k) = my.window y (w + k)) ∧ c'.steps ≤ c.steps + (K + 1) := by
  have hsplit := Mem.window_add_eq_iff mx my x y w k
  apply Holds.tick_bind
  apply Holds.loadU_bind hx1 (Nat.le_trans (Nat.add_le_add_left (Nat.le_add_right w k) x) hx2)
  apply Holds.loadU_bind hy1 (Nat.le_trans (Nat.add_le_add_left (Nat.le_add_right w k) y) hy2)
  refine Holds.ite (fun hne => ?_) (fun heq => ?_)
  · exact Holds.pure ⟨(decide_eq_false fun h => bne_iff_ne.mp hne (hsplit.mp h).1).symm,
      Nat.add_le_add_left (Nat.le_add_left 1 K) c.steps⟩
  · have heq' : mx.window x w = my.window y w := by simpa using heq
    apply Holds.mono (hrest _)
    intro r c' ⟨hr, hs⟩
    exact ⟨hr.trans (decide_eq_decide.mpr (hsplit.trans (and_iff_right heq')).symm),
      Nat.le_trans (show c'.steps ≤ c.steps + 1 + K from hs) (by omega)⟩

/-- the one-byte compare both branches of `tail` end with -/
theorem byte_run {mx my : Mem} {x y : Nat} (c : Ctr)
    (hx1 : mx.base ≤ x) (hx2 : x + 1 ≤ mx.base + mx.bytes.size)
    (hy1 : my.base ≤ y) (hy2 : y + 1 ≤ my.base + my.bytes.size) :
    Holds (do
        tick
        let bx ← mx.read x
        let by_ ← my.read y
        if bx != by_ then pure false else pure true) c fun r c' =>
      r = decide (mx.window x 1 = my.window y 1) ∧ c'.steps ≤ c.steps + 1 := by
  apply Holds.tick_bind
  apply Holds.read_bind hx1 hx2
  apply Holds.read_bind hy1 hy2
  rw [Mem.window_one, Mem.window_one]
  refine Holds.ite (fun hne => ?_) (fun heq => ?_)
  · exact Holds.pure ⟨(decide_eq_false fun h => bne_iff_ne.mp hne (List.head_eq_of_cons_eq h)).symm,
      Nat.le_refl _⟩
  · have heq' : mx.byteAt x = my.byteAt y := by simpa using heq
    exact Holds.pure ⟨(decide_eq_true (by rw [heq'])).symm, Nat.le_refl _⟩

/-- where a range stands after a chunk of `w` bytes -/
theorem chunk_geom {base size x w k : Nat} (h1 : base ≤ x) (h2 : x + (w + k) ≤ base + size) :
    x + w ≤ base + size ∧ base ≤ x + w ∧ x + w + k ≤ base + size := by
  omega

/-- the 2- and 1-byte tail of `is_equal_raw` (`n < 4`) -/
theorem tail_spec (mx my : Mem) (x y n : Nat) (c : Ctr) (hn : n < 4)
    (hx1 : mx.base ≤ x) (hx2 : x + n ≤ mx.base + mx.bytes.size)
    (hy1 : my.base ≤ y) (hy2 : y + n ≤ my.base + my.bytes.size) :
    Holds (tail mx my x y n) c fun r c' =>
      r = decide (mx.window x n = my.window y n) ∧ c'.steps ≤ c.steps + 2 := by
  unfold tail
  refine Holds.ite (fun h2 => ?_) (fun h2 => Holds.ite (fun h1 => ?_) (fun h0 => ?_))
  · obtain ⟨k, rfl⟩ : ∃ k, n = 2 + k := ⟨n - 2, by omega⟩
    obtain ⟨gx1, gx2, gx3⟩ := chunk_geom hx1 hx2
    obtain ⟨gy1, gy2, gy3⟩ := chunk_geom hy1 hy2
    refine chunk_run (K := 1) c hx1 hx2 hy1 hy2 fun c1 => ?_
    apply Holds.padd_bind hx1 gx1
    apply Holds.padd_bind hy1 gy1
    apply Holds.csub_bind' h2
    intro d hd
    obtain rfl : d = k := Nat.add_right_cancel (hd.trans (Nat.add_comm 2 k))
    refine Holds.ite (fun hpos => ?_) (fun hzero => ?_)
    · obtain rfl : d = 1 := by omega
      exact byte_run c1 gx2 gx3 gy2 gy3
    · obtain rfl : d = 0 := Nat.eq_zero_of_not_pos hzero
      exact Holds.pure ⟨rfl, Nat.le_add_right _ _⟩
  · obtain rfl : n = 1 := by omega
    apply Holds.mono (byte_run c hx1 hx2 hy1 hy2)
    exact fun r c' ⟨hr, hs⟩ => ⟨hr, Nat.le_succ_of_le hs⟩
  · obtain rfl : n = 0 := Nat.eq_zero_of_not_pos h0
    exact Holds.pure ⟨rfl, Nat.le_add_right _ _⟩

theorem loop4_spec (mx my : Mem) (x y n : Nat) (c : Ctr)
    (hx1 : mx.base ≤ x) (hx2 : x + n ≤ mx.base + mx.bytes.size)
    (hy1 : my.base ≤ y) (hy2 : y + n ≤ my.base + my.bytes.size) :
    Holds (loop4 mx my x y n) c fun r c' =>
      r = decide (mx.window x n = my.window y n) ∧ c'.steps ≤ c.steps + n / 4 + 2 := by
  fun_induction loop4 mx my x y n generalizing c with
  | case1 x y n h ih =>
    obtain ⟨k, rfl⟩ : ∃ k, n = 4 + k := ⟨n - 4, by omega⟩
    obtain ⟨gx1, gx2, gx3⟩ := chunk_geom hx1 hx2
    obtain ⟨gy1, gy2, gy3⟩ := chunk_geom hy1 hy2
    rw [Nat.add_sub_cancel_left] at ih
    rw [Nat.add_sub_cancel_left, Nat.add_div_left k (Nat.succ_pos 3)]
    refine chunk_run (K := k / 4 + 2) c hx1 hx2 hy1 hy2 fun c1 => ?_
    apply Holds.padd_bind hx1 gx1
    apply Holds.padd_bind hy1 gy1
    exact ih c1 gx2 gx3 gy2 gy3
  | case2 x y n h =>
    apply Holds.mono (tail_spec mx my x y n c (Nat.lt_of_not_le h) hx1 hx2 hy1 hy2)
    exact fun r c' ⟨hr, hs⟩ => ⟨hr, Nat.le_trans hs (Nat.add_le_add_right (Nat.le_add_right _ _) 2)⟩

/-- `is_equal_raw(x, y, n)` on two readable ranges returns whether the ranges hold the same
bytes; every load is in range. It costs at most `n / 4 + 2` steps. -/
theorem isEqualRaw_correct (mx my : Mem) (x y n : Nat) (c : Ctr)
    (hx1 : mx.base ≤ x) (hx2 : x + n ≤ mx.base + mx.bytes.size)
    (hy1 : my.base ≤ y) (hy2 : y + n ≤ my.base + my.bytes.size) :
    ∃ c', isEqualRaw mx my x y n c = .ok (decide (mx.window x n = my.window y n)) c' ∧
      c'.steps ≤ c.steps + n / 4 + 2 :=
  Holds.val (loop4_spec mx my x y n c hx1 hx2 hy1 hy2)

example : ∃ c', isEqualRaw ⟨0, 100, #[1, 2, 3, 4, 5, 6, 7]⟩ ⟨1, 200, #[9, 2, 3, 4, 5, 6, 7, 8]⟩
    101 201 6 {} = .ok true c' ∧ c'.steps ≤ 3 := by
  obtain ⟨c', h, hs⟩ := isEqualRaw_correct ⟨0, 100, #[1, 2, 3, 4, 5, 6, 7]⟩
    ⟨1, 200, #[9, 2, 3, 4, 5, 6, 7, 8]⟩ 101 201 6 {} (by decide) (by decide) (by decide)
    (by decide)
  exact ⟨c', by rw [h]; rfl, by simpa using hs⟩

/-- `is_equal(x, y)` is slice equality, at most `x.len / 4 + 2` steps -/
theorem isEqual_correct (x y : Slice) (c : Ctr) (hx : x.Valid) (hy : y.Valid) :
    ∃ c', isEqual x y c = .ok (decide (x.toList = y.toList)) c' ∧
      c'.steps ≤ c.steps + x.len / 4 + 2 := by
  unfold isEqual
  by_cases hl : x.len = y.len
  · rw [if_neg (mt bne_iff_ne.mp (not_not_intro hl))]
    obtain ⟨c', e, hs⟩ := isEqualRaw_correct x.mem y.mem x.ptr y.ptr x.len c hx.ptr_le
      hx.endPtr_le hy.ptr_le (hl ▸ hy.endPtr_le)
    refine ⟨c', ?_, hs⟩
    rw [e, Slice.toList_eq_window x, Slice.toList_eq_window y, hl]
  · have hne : ¬ x.toList = y.toList := fun h => hl (Slice.same_bytes h).1
    rw [if_pos (bne_iff_ne.mpr hl), decide_eq_false hne]
    exact ⟨c, rfl, Nat.le_add_right_of_le (Nat.le_add_right _ _)⟩

/-- `is_prefix(haystack, needle)` decides `needle <+: haystack` (`List.IsPrefix`) -/
theorem isPrefix_correct (h n : Slice) (c : Ctr) (hh : h.Valid) (hn : n.Valid) :
    ∃ c', isPrefix h n c = .ok (decide (n.toList <+: h.toList)) c' ∧
      c'.steps ≤ c.steps + n.len / 4 + 2 := by
  unfold isPrefix
  by_cases hl : n.len ≤ h.len
  · rw [if_pos hl, Slice.take_ok hl, pure_bind']
    obtain ⟨c', e, hs⟩ := isEqual_correct ⟨h.mem, h.off, n.len⟩ n c (Slice.take_valid hh hl) hn
    refine ⟨c', ?_, hs⟩
    rw [e, Slice.take_toList h hl]
    congr 1
    apply decide_eq_decide.mpr
    rw [List.prefix_iff_eq_take, Slice.toList_length]
    exact eq_comm
  · have hne : ¬ n.toList <+: h.toList := fun hp => hl (by
      simpa using hp.length_le)
    rw [if_neg hl, decide_eq_false hne]
    exact ⟨c, rfl, Nat.le_add_right_of_le (Nat.le_add_right _ _)⟩

/-- `is_suffix(haystack, needle)` decides `needle <:+ haystack` (`List.IsSuffix`) -/
theorem isSuffix_correct (h n : Slice) (c : Ctr) (hh : h.Valid) (hn : n.Valid) :
    ∃ c', isSuffix h n c = .ok (decide (n.toList <:+ h.toList)) c' ∧
      c'.steps ≤ c.steps + n.len / 4 + 2 := by
  unfold isSuffix
  by_cases hl : n.len ≤ h.len
  · obtain ⟨a, ha⟩ : ∃ a, a + n.len = h.len := ⟨h.len - n.len, Nat.sub_add_cancel hl⟩
    have hal : a ≤ h.len := ha ▸ Nat.le_add_right a n.len
    have hlen : h.len - a = n.len := Nat.sub_eq_of_eq_add (ha.symm.trans (Nat.add_comm a n.len))
    rw [if_pos hl, csub_eq ha, pure_bind', Slice.drop_ok hal, pure_bind']
    obtain ⟨c', e, hs⟩ := isEqual_correct _ n c (Slice.drop_valid hh hal) hn
    refine ⟨c', ?_, hlen ▸ hs⟩
    rw [e, Slice.drop_toList h a]
    congr 1
    apply decide_eq_decide.mpr
    rw [List.suffix_iff_eq_drop, Slice.toList_length, Slice.toList_length, ← ha,
      Nat.add_sub_cancel]
    exact eq_comm
  · have hne : ¬ n.toList <:+ h.toList := fun hp => hl (by
      simpa using hp.length_le)
    rw [if_neg hl, decide_eq_false hne]
    exact ⟨c, rfl, Nat.le_add_right_of_le (Nat.le_add_right _ _)⟩

example : (⟨⟨0, 64, #[0, 1, 2, 3, 4, 5, 6, 7]⟩, 1, 6⟩ : Slice).Valid ∧
    (⟨⟨1, 8, #[1, 2, 3]⟩, 0, 3⟩ : Slice).Valid := by
  constructor <;> (unfold Slice.Valid; decide)

end Memchr.IsEqual
