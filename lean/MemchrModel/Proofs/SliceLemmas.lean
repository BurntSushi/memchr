/-
Bridging lemmas between `Slice.toList`, `Slice.getD`, `Slice.toArray`, `Mem.window` and
`Mem.byteAt`, splitting lemmas for `Mem.window`, the specifications (`Spec.firstIdx`,
`Spec.lastIdx`, `Spec.OccAt`) on a slice byte by byte, sub-slices (`drop`, `take`), slices
with the same bytes, and `Fallback.scanned`, the measure the step bounds of the forward searches
are stated in.
-/
import MemchrModel.Base.Lemmas
import MemchrModel.Base.Slice
import MemchrModel.Spec.Substr
import MemchrModel.Model.Pair

namespace Memchr

namespace Mem

theorem window_zero (m : Mem) (a : Nat) : m.window a 0 = [] := rfl

theorem window_one (m : Mem) (a : Nat) : m.window a 1 = [m.byteAt a] := by
  simp [window, List.range_succ]

theorem window_add (m : Mem) (a k n : Nat) :
    m.window a (k + n) = m.window a k ++ m.window (a + k) n := by
  apply List.ext_getElem
  · simp
  · intro i h1 h2
    rw [window_getElem]
    by_cases hi : i < k
    · rw [List.getElem_append_left (by simpa using hi), window_getElem]
    · rw [List.getElem_append_right (by simpa using hi), window_getElem]
      simp only [window_length]
      congr 1; omega

theorem window_succ (m : Mem) (a n : Nat) :
    m.window a (n + 1) = m.byteAt a :: m.window (a + 1) n := by
  rw [Nat.add_comm n 1, window_add, window_one]; rfl

theorem window_succ_last (m : Mem) (a n : Nat) :
    m.window a (n + 1) = m.window a n ++ [m.byteAt (a + n)] := by
  rw [window_add, window_one]

theorem window_eq_iff (mx my : Mem) (x y n : Nat) :
    mx.window x n = my.window y n ↔ ∀ i, i < n → mx.byteAt (x + i) = my.byteAt (y + i) := by
  unfold window
  rw [List.map_inj_left]
  simp only [List.mem_range]

theorem window_add_eq_iff (mx my : Mem) (x y k n : Nat) :
    mx.window x (k + n) = my.window y (k + n) ↔
      mx.window x k = my.window y k ∧ mx.window (x + k) n = my.window (y + k) n := by
  rw [window_add, window_add]
  constructor
  · intro h
    exact List.append_inj h (by simp)
  · rintro ⟨h1, h2⟩
    rw [h1, h2]

end Mem

namespace Slice

@[simp] theorem toList_length (s : Slice) : s.toList.length = s.len := by
  simp [toList]

theorem toList_getElem (s : Slice) (i : Nat) (h : i < s.toList.length) :
    s.toList[i] = s.getD i := by
  simp [toList]

theorem toList_getElem? (s : Slice) (i : Nat) (h : i < s.len) :
    s.toList[i]? = some (s.getD i) := by
  simp [toList, h]

theorem same_bytes {n n0 : Slice} (hb : n.toList = n0.toList) :
    n.len = n0.len ∧ ∀ i, i < n.len → n.getD i = n0.getD i := by
  have hl : n.len = n0.len := by simpa using congrArg List.length hb
  refine ⟨hl, fun i hi => ?_⟩
  have h1 := toList_getElem? n i hi
  have h2 := toList_getElem? n0 i (hl ▸ hi)
  rw [hb, h2] at h1
  exact (Option.some.inj h1).symm

theorem getD_of_toList_eq {n n0 : Slice} (hb : n.toList = n0.toList) {i : Nat} (hi : i < n0.len) :
    n.getD i = n0.getD i :=
  (same_bytes hb).2 i ((same_bytes hb).1 ▸ hi)

theorem getD_eq_byteAt (s : Slice) (i : Nat) : s.getD i = s.mem.byteAt (s.ptr + i) := by
  simp only [getD, Mem.byteAt, ptr]
  congr 2
  omega

/-- no validity needed: both sides read 0 outside the region -/
theorem toList_eq_window (s : Slice) : s.toList = s.mem.window s.ptr s.len := by
  simp only [toList, Mem.window]
  apply List.map_congr_left
  intro i _
  exact getD_eq_byteAt s i

@[simp] theorem toArray_size {s : Slice} (h : s.Valid) : s.toArray.size = s.len := by
  unfold Valid at h
  simp only [toArray, Array.size_extract]
  omega

theorem toArray_getElem? {s : Slice} (h : s.Valid) (i : Nat) (hi : i < s.len) :
    s.toArray[i]? = some (s.getD i) := by
  unfold Valid at h
  have h1 : s.off + i < s.mem.bytes.size := by omega
  simp only [toArray, getD, Array.getElem?_extract]
  have : i < min (s.off + s.len) s.mem.bytes.size - s.off := by omega
  simp [this, h1]

theorem toArray_getElem?_of_le {s : Slice} (h : s.Valid) (i : Nat) (hi : s.len ≤ i) :
    s.toArray[i]? = none := by
  rw [Array.getElem?_eq_none_iff, toArray_size h]
  exact hi

theorem toArray_toList {s : Slice} (h : s.Valid) : s.toArray.toList = s.toList := by
  apply List.ext_getElem?
  intro i
  by_cases hi : i < s.len
  · rw [toList_getElem? s i hi, Array.getElem?_toList, toArray_getElem? h i hi]
  · have h1 : s.toArray.toList.length ≤ i := by
      have := toArray_size h
      simp only [Array.length_toList]; omega
    have h2 : s.toList.length ≤ i := by simp; omega
    rw [List.getElem?_eq_none h1, List.getElem?_eq_none h2]

theorem toArray_getElem?_byteAt {s : Slice} (h : s.Valid) (i : Nat) (hi : i < s.len) :
    s.toArray[i]? = some (s.mem.byteAt (s.ptr + i)) := by
  rw [toArray_getElem? h i hi, getD_eq_byteAt]

theorem toArray_congr {s t : Slice} (hs : s.Valid) (ht : t.Valid) (h : s.toList = t.toList) :
    s.toArray = t.toArray :=
  Array.ext' (by rw [toArray_toList hs, toArray_toList ht, h])

theorem toArray_of_len_one {s : Slice} (hv : s.Valid) (h1 : s.len = 1) : s.toArray = #[s.getD 0] :=
  Array.ext' (by rw [toArray_toList hv, toList, h1]; rfl)

theorem mem_toArray_iff {s : Slice} (hv : s.Valid) {b : UInt8} :
    b ∈ s.toArray ↔ ∃ t, t < s.len ∧ s.getD t = b := by
  constructor
  · intro hb
    obtain ⟨i, hi⟩ := Array.mem_iff_getElem?.mp hb
    by_cases hlt : i < s.len
    · rw [toArray_getElem? hv i hlt] at hi
      exact ⟨i, hlt, Option.some.inj hi⟩
    · rw [toArray_getElem?_of_le hv i (Nat.le_of_not_lt hlt)] at hi
      cases hi
  · rintro ⟨t, ht, rfl⟩
    exact Array.mem_of_getElem? (toArray_getElem? hv t ht)

theorem ofMem_valid (m : Mem) : (ofMem m).Valid := Nat.le_of_eq (Nat.zero_add _)

/-- pointer range of a valid slice lies in its region (the lower bound holds of any slice; it
takes the hypothesis so that `hv.ptr_le` reads like `hv.endPtr_le`) -/
theorem Valid.ptr_le {s : Slice} (_h : s.Valid) : s.mem.base ≤ s.ptr := by
  simp [ptr]

theorem Valid.endPtr_le {s : Slice} (h : s.Valid) :
    s.ptr + s.len ≤ s.mem.base + s.mem.bytes.size := by
  unfold Valid at h
  simp only [ptr]; omega

theorem firstIdx_pointwise (p : UInt8 → Bool) (hay : Slice) :
    (Spec.firstIdx p hay.toList = none ↔ ∀ i, i < hay.len → p (hay.getD i) = false) ∧
    ∀ i, Spec.firstIdx p hay.toList = some i →
      i < hay.len ∧ p (hay.getD i) = true ∧ ∀ j, j < i → p (hay.getD j) = false := by
  have h := Spec.firstIdx_pointwise (p := p) (get := hay.getD) (toList_getElem hay)
  rwa [toList_length] at h

theorem lastIdx_pointwise (p : UInt8 → Bool) (hay : Slice) :
    (Spec.lastIdx p hay.toList = none ↔ ∀ i, i < hay.len → p (hay.getD i) = false) ∧
    ∀ i, Spec.lastIdx p hay.toList = some i →
      i < hay.len ∧ p (hay.getD i) = true ∧ ∀ j, i < j → j < hay.len → p (hay.getD j) = false := by
  have h := Spec.lastIdx_pointwise (p := p) (get := hay.getD) (toList_getElem hay)
  rwa [toList_length] at h

theorem occAt_iff_getD {h n : Slice} (hh : h.Valid) (hn : n.Valid) (q : Nat) :
    Spec.OccAt h.toArray n.toArray q ↔
      q + n.len ≤ h.len ∧ ∀ k, k < n.len → h.getD (q + k) = n.getD k := by
  unfold Spec.OccAt
  rw [toArray_size hh, toArray_size hn]
  refine and_congr_right fun h1 => forall_congr' fun k => imp_congr_right fun hk => ?_
  rw [toArray_getElem? hh (q + k) (Nat.lt_of_lt_of_le (Nat.add_lt_add_left hk q) h1),
    toArray_getElem? hn k hk, Option.some.injEq]

/-- the offsets at which a needle can occur, as the substring searches bound them -/
theorem occAt_lt {h n : Slice} (hh : h.Valid) (hn : n.Valid) {j : Nat}
    (hj : Spec.OccAt h.toArray n.toArray j) : j < h.len + 1 - n.len := by
  have := ((occAt_iff_getD hh hn j).mp hj).1
  omega

theorem occAt_iff_window {h n : Slice} (hh : h.Valid) (hn : n.Valid) (i : Nat) :
    Spec.OccAt h.toArray n.toArray i ↔
      i + n.len ≤ h.len ∧ h.mem.window (h.ptr + i) n.len = n.mem.window n.ptr n.len := by
  rw [occAt_iff_getD hh hn, Mem.window_eq_iff]
  refine and_congr_right fun _ => forall_congr' fun k => imp_congr_right fun _ => ?_
  rw [getD_eq_byteAt, getD_eq_byteAt, Nat.add_assoc]

/-! ### sub-slices: the values `Slice.drop` / `Slice.take` return -/

theorem drop_valid {s : Slice} (hv : s.Valid) {a : Nat} (h : a ≤ s.len) :
    Valid ⟨s.mem, s.off + a, s.len - a⟩ := by
  unfold Valid at *
  show s.off + a + (s.len - a) ≤ s.mem.bytes.size
  omega

theorem take_valid {s : Slice} (hv : s.Valid) {b : Nat} (h : b ≤ s.len) :
    Valid ⟨s.mem, s.off, b⟩ :=
  Nat.le_trans (Nat.add_le_add_left h _) hv

theorem drop_getD (s : Slice) (a n k : Nat) : getD ⟨s.mem, s.off + a, n⟩ k = s.getD (a + k) := by
  simp only [getD, Nat.add_assoc]

theorem take_getD (s : Slice) (n k : Nat) : getD ⟨s.mem, s.off, n⟩ k = s.getD k := rfl

theorem take_toList (s : Slice) {b : Nat} (h : b ≤ s.len) :
    toList ⟨s.mem, s.off, b⟩ = s.toList.take b := by
  simp only [toList, ← List.map_take, List.take_range, Nat.min_eq_left h]
  rfl

theorem drop_toList (s : Slice) (a : Nat) :
    toList ⟨s.mem, s.off + a, s.len - a⟩ = s.toList.drop a := by
  apply List.ext_getElem
  · simp
  · intro i h1 h2
    simp only [toList, List.getElem_map, List.getElem_range, List.getElem_drop, getD]
    rw [Nat.add_assoc]

/-- what a correct `memchr` says about `&s[i..]`, in terms of `s` -/
theorem firstIdx_drop_some {s : Slice} {i k : Nat} {b : UInt8}
    (h : Spec.firstIdx (· == b) (toList ⟨s.mem, s.off + i, s.len - i⟩) = some k) :
    k < s.len - i ∧ s.getD (i + k) = b ∧ ∀ j, j < k → s.getD (i + j) ≠ b := by
  obtain ⟨hk, hp, hn⟩ := (firstIdx_pointwise _ _).2 k h
  exact ⟨hk, drop_getD s i _ k ▸ eq_of_beq hp,
    fun j hj => drop_getD s i _ j ▸ ne_of_beq_false (hn j hj)⟩

theorem firstIdx_drop_none {s : Slice} {i : Nat} {b : UInt8}
    (h : Spec.firstIdx (· == b) (toList ⟨s.mem, s.off + i, s.len - i⟩) = none) :
    ∀ j, i ≤ j → j < s.len → s.getD j ≠ b := by
  intro j h1 h2
  obtain ⟨d, rfl⟩ := Nat.le.dest h1
  exact drop_getD s i _ d ▸ ne_of_beq_false ((firstIdx_pointwise _ _).1.mp h d
    (Nat.lt_sub_of_add_lt (Nat.add_comm i d ▸ h2)))

end Slice

namespace Fallback

/-- an answer below `b` in a haystack of at most `b` bytes: at most `b` bytes were looked at -/
theorem scanned_le {r : Option Nat} {len b : Nat} (hl : len ≤ b) (h : ∀ i, r = some i → i < b) :
    scanned r len ≤ b := by
  cases r with
  | none => exact hl
  | some i => exact h i rfl

theorem scanned_pos {r : Option Nat} {len : Nat} (hl : 0 < len) : 0 < scanned r len := by
  cases r with
  | none => exact hl
  | some i => exact Nat.succ_pos i

end Fallback

end Memchr
