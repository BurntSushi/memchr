/-
`count_raw`: loop lemmas and the master theorem.
-/
import MemchrModel.Proofs.MemchrGenericChunk

namespace Memchr.Generic

variable {V : VecImpl}

theorem countOnes_chunk (L : Lawful V) (n1 : UInt8) (m : Mem) (a : Nat) :
    V.countOnes (V.movemask (Vec.cmpeq (Vec.splat V.bytes n1) (m.window a V.bytes)))
      = cnt m (· == n1) a (a + V.bytes) := by
  rw [cmpeq_splat_window, (MaskRep.movemask L _).countOnes]
  unfold cnt Spec.countP Mem.window
  rw [Nat.add_sub_cancel_left, List.countP_map, List.countP_eq_length_filter]
  rfl

theorem countChunks_addrs (L : Lawful V) (n1 : UInt8) (m : Mem) (cur u count : Nat) :
    countChunks V n1 ((chunkAddrs V cur u).map (fun a => m.window a V.bytes)) count
      = count + cnt m (· == n1) cur (cur + u * V.bytes) := by
  induction u generalizing cur count with
  | zero => simp [countChunks, chunkAddrs, cnt_self]
  | succ k ih =>
    -- the right side, brought to the form of the left side after one step of the fold
    have hle : cur + V.bytes ≤ cur + V.bytes + k * V.bytes := Nat.le_add_right _ _
    rw [← add_succ_mul, cnt_split m _ (Nat.le_add_right cur V.bytes) hle, ← Nat.add_assoc,
      ← countOnes_chunk L, ← ih]
    rfl

theorem countLoop1_spec (L : Lawful V) (n1 : UInt8) {m : Mem} {lim end_ cur : Nat} (count : Nat)
    {c : Ctr}
    (hlim : lim + V.bytes = end_) (hb : m.base ≤ cur) (hce : cur ≤ end_)
    (he : end_ ≤ m.base + m.bytes.size) :
    Holds (countLoop1 V n1 m end_ lim cur count) c (fun r _ =>
      r = count + cnt m (· == n1) cur end_) := by
  fun_induction countLoop1 V n1 m end_ lim cur count generalizing c with
  | case1 cur count h ih =>
    have hcv : cur + V.bytes ≤ end_ := hlim ▸ Nat.add_le_add_right h _
    apply Holds.tick_bind
    apply Holds.distance_bind' hb hce he
    intro d hd
    apply Holds.dbgAssert_bind' (dist_ge hd hcv)
    apply Holds.loadU_bind hb (Nat.le_trans hcv he)
    apply Holds.padd_bind hb (Nat.le_trans hcv he)
    apply Holds.mono (ih (m.window cur V.bytes) (Nat.le_trans hb (Nat.le_add_right _ _)) hcv)
    rintro r _ rfl
    simp only [countChunks, List.foldl_cons, List.foldl_nil, countOnes_chunk L]
    rw [cnt_split m _ (Nat.le_add_right cur V.bytes) hcv, Nat.add_assoc]
  | case2 cur count h =>
    apply Holds.bind (countByteByByte_spec m _ cur end_ c hb hce he)
    rintro _ c1 rfl
    exact Holds.pure rfl

theorem countLoopN_spec (L : Lawful V) (n1 : UInt8) {u : Nat} {hu : 0 < u} {m : Mem}
    {limN lim1 end_ cur : Nat} (count : Nat) {c : Ctr}
    (hlimN : limN + u * V.bytes = end_) (hlim1 : lim1 + V.bytes = end_)
    (hb : m.base ≤ cur) (hce : cur ≤ end_) (hal : cur % V.bytes = 0)
    (he : end_ ≤ m.base + m.bytes.size) :
    Holds (countLoopN V n1 u hu m end_ limN lim1 cur count) c (fun r _ =>
      r = count + cnt m (· == n1) cur end_) := by
  fun_induction countLoopN V n1 u hu m end_ limN lim1 cur count generalizing c with
  | case1 cur count h ih =>
    have hcv : cur + u * V.bytes ≤ end_ := hlimN ▸ Nat.add_le_add_right h _
    apply Holds.tick_bind
    apply Holds.dbgAssert_bind (beq_iff_eq.mpr hal)
    apply Holds.bind (loadChunks_spec m cur u _ hb (Nat.le_trans hcv he) (fun _ => hal))
    rintro _ c1 ⟨rfl, -⟩
    apply Holds.padd_bind hb (Nat.le_trans hcv he)
    apply Holds.mono (ih _ (Nat.le_trans hb (Nat.le_add_right _ _)) hcv
      ((Nat.add_mul_mod_self_right ..).trans hal))
    rintro r _ rfl
    rw [countChunks_addrs L, cnt_split m _ (Nat.le_add_right cur (u * V.bytes)) hcv, Nat.add_assoc]
  | case2 cur count h =>
    exact countLoop1_spec L n1 count hlim1 hb hce he

theorem countRaw_spec (L : Lawful V) (n1 : UInt8) (u : Nat) (hu : 0 < u)
    (m : Mem) (start end_ : Nat) (c : Ctr)
    (hs : m.base ≤ start) (he : end_ ≤ m.base + m.bytes.size) (hlen : start + V.bytes ≤ end_) :
    Holds (countRaw V n1 u hu m start end_) c (fun r _ => r = cnt m (· == n1) start end_) := by
  unfold countRaw
  apply Holds.dbgAssert_bind' L.bytes_le
  apply Holds.distance_bind' hs (Nat.le_trans (Nat.le_add_right _ _) hlen) he
  intro len hlen'
  apply Holds.dbgAssert_bind' (dist_ge hlen' hlen)
  apply Holds.csub_bind' (Nat.le_of_lt (and_align_lt L start))
  intro adv hadv
  obtain ⟨hadv0, hadvB, hal⟩ := align_up (and_align L start) V.bytes_pos hadv
  have hcur : start + adv ≤ end_ := Nat.le_trans (Nat.add_le_add_left hadvB _) hlen
  have hbc : m.base ≤ start + adv := Nat.le_trans hs (Nat.le_add_right _ _)
  apply Holds.padd_bind hs (Nat.le_trans hcur he)
  apply Holds.bind (countByteByByte_spec m _ start (start + adv) c hs (Nat.le_add_right _ _)
    (Nat.le_trans hcur he))
  rintro _ c1 rfl
  apply Holds.psub_bind' (Nat.le_trans (Nat.add_le_add_right hs _) hlen) he
  intro lim1 hlim1
  apply Holds.dbgAssert_and_bind (Nat.lt_add_of_pos_right hadv0)
    (le_of_add_le hlen hlim1 (Nat.le_refl _))
  have hsplit := cnt_split m (· == n1) (Nat.le_add_right start adv) hcur
  refine Holds.ite (fun hbig => ?_) (fun _ => ?_)
  · apply Holds.psub_bind' (show m.base + u * V.bytes ≤ end_ by omega) he
    intro limN hlimN
    apply Holds.mono (countLoopN_spec L n1 _ hlimN hlim1 hbc hcur hal he)
    rintro r _ rfl
    exact hsplit.symm
  · apply Holds.mono (countLoop1_spec L n1 _ hlim1 hbc hcur he)
    rintro r _ rfl
    exact hsplit.symm

end Memchr.Generic
