/-
C06.refines / C07.iter_count: the double-ended iterators (`arch::generic::memchr::Iter`
instantiated with any backend's raw routines, hence `Memchr`, `Memchr2`, `Memchr3`, `OneIter`,
`TwoIter`, `ThreeIter`) refine the abstract iterator

  remaining = sorted list of the match positions of the ORIGINAL haystack inside the current
              window; `next` pops the front, `next_back` pops the back,

for every haystack, needle set, backend and every finite sequence of `next` / `next_back` /
`size_hint` / `count` operations; and what that means for the values a run yields
(`Bridge2.run_partition`: front outputs, what is left, back outputs reversed are together the
list of all matches).
-/
import MemchrModel.Proofs.MemchrApi

namespace Memchr.Api

open Memchr.Generic

/-! ### the interval predicates on indices relative to a base address -/

theorem NoHit.index {m : Mem} {p : UInt8 → Bool} {base a b : Nat}
    (h : NoHit m p (base + a) (base + b)) :
    ∀ j, a ≤ j → j < b → p (m.byteAt (base + j)) = false :=
  fun j h1 h2 => h (base + j) (Nat.add_le_add_left h1 _) (Nat.add_lt_add_left h2 _)

theorem index_of_mem {base a b x : Nat} (h1 : base + a ≤ x) (h2 : x < base + b) :
    ∃ i, x = base + i ∧ a ≤ i ∧ i < b := by
  obtain ⟨k, rfl⟩ := Nat.le.dest h1
  rw [Nat.add_assoc] at h2 ⊢
  exact ⟨a + k, rfl, Nat.le_add_right _ _, Nat.lt_of_add_lt_add_left h2⟩

theorem FirstRes.index {m : Mem} {p : UInt8 → Bool} {base a b x : Nat}
    (h : FirstRes m p (base + a) (base + b) (some x)) :
    ∃ i, x = base + i ∧ a ≤ i ∧ i < b ∧ p (m.byteAt (base + i)) = true ∧
      ∀ j, a ≤ j → j < i → p (m.byteAt (base + j)) = false := by
  obtain ⟨h1, h2, h3, h4⟩ := h
  obtain ⟨i, rfl, hai, hib⟩ := index_of_mem h1 h2
  exact ⟨i, rfl, hai, hib, h3, NoHit.index h4⟩

theorem LastRes.index {m : Mem} {p : UInt8 → Bool} {base a b x : Nat}
    (h : LastRes m p (base + a) (base + b) (some x)) :
    ∃ i, x = base + i ∧ a ≤ i ∧ i < b ∧ p (m.byteAt (base + i)) = true ∧
      ∀ j, i + 1 ≤ j → j < b → p (m.byteAt (base + j)) = false := by
  obtain ⟨h1, h2, h3, h4⟩ := h
  obtain ⟨i, rfl, hai, hib⟩ := index_of_mem h1 h2
  exact ⟨i, rfl, hai, hib, h3, NoHit.index (a := i + 1) h4⟩

/-! ### the abstract iterator -/

/-- the positions `i` in `[lo, hi)` with `f i`, in increasing order -/
def matchesIn (f : Nat → Bool) (lo hi : Nat) : List Nat := (List.range' lo (hi - lo)).filter f

theorem mem_matchesIn {f : Nat → Bool} {lo hi i : Nat} :
    i ∈ matchesIn f lo hi ↔ lo ≤ i ∧ i < hi ∧ f i = true := by
  have hhi : lo ≤ i → (i < lo + (hi - lo) ↔ i < hi) := by omega
  simp only [matchesIn, List.mem_filter, List.mem_range'_1]
  exact ⟨fun ⟨⟨h1, h2⟩, h3⟩ => ⟨h1, (hhi h1).mp h2, h3⟩,
    fun ⟨h1, h2, h3⟩ => ⟨⟨h1, (hhi h1).mpr h2⟩, h3⟩⟩

theorem matchesIn_sorted (f : Nat → Bool) (lo hi : Nat) :
    (matchesIn f lo hi).Pairwise (· < ·) :=
  List.Pairwise.filter _ (List.pairwise_lt_range')

theorem matchesIn_length_le (f : Nat → Bool) (lo hi : Nat) :
    (matchesIn f lo hi).length ≤ hi - lo := by
  unfold matchesIn
  exact Nat.le_trans (List.length_filter_le f _) (Nat.le_of_eq List.length_range')

theorem matchesIn_nil {f : Nat → Bool} {lo hi : Nat}
    (h : ∀ j, lo ≤ j → j < hi → f j = false) : matchesIn f lo hi = [] :=
  List.eq_nil_iff_forall_not_mem.mpr fun j hj =>
    have ⟨h1, h2, h3⟩ := mem_matchesIn.mp hj
    Bool.false_ne_true ((h j h1 h2).symm.trans h3)

theorem matchesIn_append {f : Nat → Bool} {lo mid hi : Nat} (h1 : lo ≤ mid) (h2 : mid ≤ hi) :
    matchesIn f lo hi = matchesIn f lo mid ++ matchesIn f mid hi := by
  obtain ⟨u, rfl⟩ := Nat.le.dest h1
  obtain ⟨v, rfl⟩ := Nat.le.dest h2
  have e1 : lo + u + v - lo = u + v := by rw [Nat.add_assoc, Nat.add_sub_cancel_left]
  unfold matchesIn
  rw [e1, Nat.add_sub_cancel_left, Nat.add_sub_cancel_left, ← List.filter_append,
    List.range'_append_1]

theorem matchesIn_cons {f : Nat → Bool} {lo hi : Nat} (h : lo < hi) :
    matchesIn f lo hi =
      if f lo = true then lo :: matchesIn f (lo + 1) hi else matchesIn f (lo + 1) hi := by
  obtain ⟨v, rfl⟩ := Nat.le.dest h
  have e1 : lo + 1 + v - lo = v + 1 := by
    rw [Nat.add_assoc, Nat.add_sub_cancel_left, Nat.add_comm]
  unfold matchesIn
  rw [e1, Nat.add_sub_cancel_left, List.range'_succ, List.filter_cons]

/-- a first hit at `x` splits off the head -/
theorem matchesIn_first {f : Nat → Bool} {lo hi x : Nat} (h1 : lo ≤ x) (h2 : x < hi)
    (hx : f x = true) (hn : ∀ j, lo ≤ j → j < x → f j = false) :
    matchesIn f lo hi = x :: matchesIn f (x + 1) hi := by
  rw [matchesIn_append h1 (Nat.le_of_lt h2), matchesIn_nil hn, List.nil_append, matchesIn_cons h2,
    if_pos hx]

/-- a last hit at `x` splits off the last element -/
theorem matchesIn_last {f : Nat → Bool} {lo hi x : Nat} (h1 : lo ≤ x) (h2 : x < hi)
    (hx : f x = true) (hn : ∀ j, x + 1 ≤ j → j < hi → f j = false) :
    matchesIn f lo hi = matchesIn f lo x ++ [x] := by
  rw [matchesIn_append h1 (Nat.le_of_lt h2), matchesIn_cons h2, if_pos hx, matchesIn_nil hn]

/-- abstract step: `next` pops the front, `next_back` pops the back, `size_hint` and `count`
report the exact number of remaining elements -/
def absStep (op : Op) (rem : List Nat) : Out × List Nat :=
  match op with
  | .next => (.idx rem.head?, rem.tail)
  | .nextBack => (.idx rem.getLast?, rem.dropLast)
  | .sizeHint => (.hint rem.length (some rem.length), rem)
  | .count => (.cnt rem.length, rem)

def absRun : List Op → List Nat → List Out × List Nat
  | [], rem => ([], rem)
  | op :: ops, rem =>
    let (o, rem') := absStep op rem
    let (os, rem'') := absRun ops rem'
    (o :: os, rem'')

theorem absRun_cons (op : Op) (ops : List Op) (rem : List Nat) :
    absRun (op :: ops) rem =
      ((absStep op rem).1 :: (absRun ops (absStep op rem).2).1,
        (absRun ops (absStep op rem).2).2) := rfl

/-- a model output is acceptable for an abstract output: `next`/`next_back`/`count` agree
exactly; `size_hint` is `(0, Some hi)` with `0 ≤ remaining ≤ hi`. -/
def OutOk : Out → Out → Prop
  | .idx o, .idx o' => o = o'
  | .cnt k, .cnt k' => k = k'
  | .hint lo hi, .hint n _ => lo = 0 ∧ ∃ h, hi = some h ∧ n ≤ h
  | _, _ => False

/-- pointwise `OutOk` on two output lists of the same length -/
inductive OutsOk : List Out → List Out → Prop
  | nil : OutsOk [] []
  | cons {a b : Out} {as bs : List Out} : OutOk a b → OutsOk as bs → OutsOk (a :: as) (b :: bs)

/-- what a step of the empty abstract iterator admits as real output -/
theorem outOk_absStep_nil {op : Op} {o : Out} (h : OutOk o (absStep op []).1) :
    o = .idx none ∨ o = .cnt 0 ∨ ∃ h, o = .hint 0 (some h) := by
  cases op <;> cases o <;> try exact h.elim
  · exact Or.inl (congrArg Out.idx h)
  · exact Or.inl (congrArg Out.idx h)
  · obtain ⟨rfl, k, rfl, _⟩ := h
    exact Or.inr (Or.inr ⟨k, rfl⟩)
  · exact Or.inr (Or.inl (congrArg Out.cnt h))

/-- once empty, the abstract iterator stays empty, and the real outputs it admits are `none`,
`0` and `(0, Some _)` forever -/
theorem absRun_nil (ops : List Op) :
    (absRun ops []).2 = [] ∧ ∀ outs, OutsOk outs (absRun ops []).1 →
      ∀ o ∈ outs, o = .idx none ∨ o = .cnt 0 ∨ ∃ h, o = .hint 0 (some h) := by
  induction ops with
  | nil => exact ⟨rfl, fun outs hok o ho => by cases hok; cases ho⟩
  | cons op ops ih =>
    have hstep : (absStep op []).2 = [] := by cases op <;> rfl
    rw [absRun_cons, hstep]
    refine ⟨ih.1, fun outs hok o ho => ?_⟩
    cases hok with
    | cons h1 h2 =>
      rcases List.mem_cons.mp ho with rfl | ho
      · exact outOk_absStep_nil h1
      · exact ih.2 _ h2 o ho

/-! ### refinement relation -/

/-- "position `i` of the haystack is a needle" -/
def posPred (hay : Slice) (ns : Needles) (i : Nat) : Bool :=
  ns.confirm (hay.mem.byteAt (hay.ptr + i))

/-- the abstract iterator's initial state: every match position of the haystack -/
def allMatches (hay : Slice) (ns : Needles) : List Nat := matchesIn (posPred hay ns) 0 hay.len

/-- The iterator invariant and its abstraction: the pointers stay ordered inside the haystack
(`start <= end` always: `next` sets `start = found + 1 <= end`, `next_back` sets
`end = found >= start`) and the abstract state is the list of matches in the window. -/
structure Refines (hay : Slice) (ns : Needles) (it : Iter) (rem : List Nat) : Prop where
  mem : it.mem = hay.mem
  os : it.originalStart = hay.ptr
  lo : hay.ptr ≤ it.start
  le : it.start ≤ it.end_
  hi : it.end_ ≤ hay.ptr + hay.len
  rem : rem = matchesIn (posPred hay ns) (it.start - hay.ptr) (it.end_ - hay.ptr)

/-- what the refinement needs from the raw routines an iterator is instantiated with -/
structure RawOk (f : RawFns) (ns : Needles) (m : Mem) : Prop where
  find : ∀ s e c, m.base ≤ s → e ≤ m.base + m.bytes.size →
    ∃ c', f.find s e c = .ok (specFirst ns m s e) c'
  rfind : ∀ s e c, m.base ≤ s → e ≤ m.base + m.bytes.size →
    ∃ c', f.rfind s e c = .ok (specLast ns m s e) c'
  count : ∀ cr, f.count = some cr → ns.rest = [] ∧
    ∀ s e c, m.base ≤ s → e ≤ m.base + m.bytes.size →
      ∃ c', cr s e c = .ok (specCount ns.first m s e) c'

/-- `RawOk.find` in the form the refinement uses: the result as an interval predicate -/
theorem RawOk.find_res {f : RawFns} {ns : Needles} {m : Mem} (hf : RawOk f ns m) (s e : Nat)
    (c : Ctr) (hs : m.base ≤ s) (he : e ≤ m.base + m.bytes.size) :
    ∃ r c', f.find s e c = .ok r c' ∧ FirstRes m ns.confirm s e r :=
  let ⟨c', h⟩ := hf.find s e c hs he
  ⟨_, c', h, firstRes_spec m ns.confirm s e⟩

theorem RawOk.rfind_res {f : RawFns} {ns : Needles} {m : Mem} (hf : RawOk f ns m) (s e : Nat)
    (c : Ctr) (hs : m.base ≤ s) (he : e ≤ m.base + m.bytes.size) :
    ∃ r c', f.rfind s e c = .ok r c' ∧ LastRes m ns.confirm s e r :=
  let ⟨c', h⟩ := hf.rfind s e c hs he
  ⟨_, c', h, lastRes_spec m ns.confirm s e⟩

theorem rawOk_ofBackend (b : Backend) (ns : Needles) (m : Mem) :
    RawOk (RawFns.ofBackend b ns m) ns m where
  find := fun s e c hs he => rawFind_correct b ns false m s e c hs he
  rfind := fun s e c hs he => rawFind_correct b ns true m s e c hs he
  count := by
    intro cr h
    obtain ⟨n1, rest⟩ := ns
    cases rest with
    | nil =>
      obtain rfl := Option.some.inj h
      exact ⟨rfl, fun s e c hs he => rawCount_correct b n1 m s e c hs he⟩
    | cons a r => cases h

/-- the public iterators of a configuration are the wrapper iterators of the selected backend -/
theorem ofCfg_eq_ofBackend (cfg : Cfg) (ns : Needles) (m : Mem) :
    RawFns.ofCfg cfg ns m = RawFns.ofBackend (select cfg) ns m := by
  unfold RawFns.ofCfg RawFns.ofBackend
  congr 1
  · funext s e
    exact memchrRaw_eq_select cfg ns false m s e
  · funext s e
    exact memchrRaw_eq_select cfg ns true m s e
  · cases ns.rest with
    | nil =>
      simp only [Option.some.injEq]
      funext s e
      exact countRaw_eq_select cfg ns.first m s e
    | cons _ _ => rfl

theorem rawOk_ofCfg (cfg : Cfg) (ns : Needles) (m : Mem) :
    RawOk (RawFns.ofCfg cfg ns m) ns m :=
  ofCfg_eq_ofBackend cfg ns m ▸ rawOk_ofBackend (select cfg) ns m

/-! ### single operations -/

section
variable {hay : Slice} {ns : Needles} {f : RawFns}

/-- The invariant in additive form: the iterator is `[hay.ptr + a, hay.ptr + b)` over the
haystack's region and the abstract state is the matches with index in `[a, b)`. Proofs take the
invariant apart with `dest` and put it together with `intro`, so that no `it.start - hay.ptr`
enters their context. -/
theorem Refines.dest {it : Iter} {rem : List Nat} (R : Refines hay ns it rem) :
    ∃ a b, it = ⟨hay.mem, hay.ptr, hay.ptr + a, hay.ptr + b⟩ ∧ a ≤ b ∧ b ≤ hay.len ∧
      rem = matchesIn (posPred hay ns) a b := by
  obtain ⟨mem, os, start, end_⟩ := it
  obtain ⟨hm, hos, hlo, hle, hhi, hrem⟩ := R
  obtain ⟨a, ha⟩ := Nat.le.dest hlo
  obtain ⟨b, hb⟩ := Nat.le.dest (Nat.le_trans hlo hle)
  simp only at hm hos ha hb hle hhi hrem
  subst hm hos ha hb
  rw [Nat.add_sub_cancel_left, Nat.add_sub_cancel_left] at hrem
  exact ⟨a, b, rfl, Nat.le_of_add_le_add_left hle, Nat.le_of_add_le_add_left hhi, hrem⟩

theorem Refines.intro {a b : Nat} (hab : a ≤ b) (hbl : b ≤ hay.len) :
    Refines hay ns ⟨hay.mem, hay.ptr, hay.ptr + a, hay.ptr + b⟩
      (matchesIn (posPred hay ns) a b) where
  mem := rfl
  os := rfl
  lo := Nat.le_add_right _ _
  le := Nat.add_le_add_left hab _
  hi := Nat.add_le_add_left hbl _
  rem := by
    show _ = matchesIn _ (hay.ptr + a - hay.ptr) (hay.ptr + b - hay.ptr)
    rw [Nat.add_sub_cancel_left, Nat.add_sub_cancel_left]

theorem refines_new (hay : Slice) (ns : Needles) :
    Refines hay ns (Iter.new hay) (allMatches hay ns) :=
  Refines.intro (Nat.zero_le _) (Nat.le_refl _)

theorem Refines.length_le {it : Iter} {rem : List Nat} (R : Refines hay ns it rem) :
    rem.length ≤ it.end_ - it.start := by
  obtain ⟨a, b, rfl, -, -, rfl⟩ := R.dest
  rw [Nat.add_sub_add_left]
  exact matchesIn_length_le _ a b

theorem window_inb (hv : hay.Valid) {a b : Nat} (hbl : b ≤ hay.len) :
    hay.mem.base ≤ hay.ptr + a ∧ hay.ptr + b ≤ hay.mem.base + hay.mem.bytes.size :=
  ⟨Nat.le_trans (Slice.Valid.ptr_le hv) (Nat.le_add_right _ _),
    Nat.le_trans (Nat.add_le_add_left hbl _) (Slice.Valid.endPtr_le hv)⟩

theorem next_refines (hv : hay.Valid) (hf : RawOk f ns hay.mem) {it : Iter} {rem : List Nat}
    (R : Refines hay ns it rem) (c : Ctr) :
    ∃ it' c', it.next f.find c = .ok (rem.head?, it') c' ∧ Refines hay ns it' rem.tail := by
  obtain ⟨a, b, rfl, hab, hbl, rfl⟩ := R.dest
  obtain ⟨hs, he⟩ := window_inb hv (a := a) hbl
  obtain ⟨r, c', hrun, hres⟩ := hf.find_res (hay.ptr + a) (hay.ptr + b) c hs he
  unfold Iter.next
  rw [bind_ok hrun]
  cases r with
  | none =>
    have hnil := matchesIn_nil (f := posPred hay ns) (NoHit.index hres)
    have R0 : Refines hay ns _ [] := hnil ▸ Refines.intro (ns := ns) hab hbl
    rw [hnil]
    exact ⟨_, c', rfl, R0⟩
  | some x =>
    obtain ⟨i, rfl, hai, hib, hp, hn⟩ := FirstRes.index hres
    obtain ⟨hsi, hei⟩ := window_inb hv (a := i) (b := i + 1) (Nat.le_trans hib hbl)
    rw [matchesIn_first (f := posPred hay ns) hai hib hp hn]
    simp only []
    rw [Mem.distance_eq rfl (Slice.Valid.ptr_le hv) (Nat.le_trans (Nat.le_add_right _ 1) hei),
      pure_bind', Mem.padd_ok _ _ _ 1 hsi hei, pure_bind']
    exact ⟨_, c', rfl, Refines.intro (a := i + 1) hib hbl⟩

theorem nextBack_refines (hv : hay.Valid) (hf : RawOk f ns hay.mem) {it : Iter} {rem : List Nat}
    (R : Refines hay ns it rem) (c : Ctr) :
    ∃ it' c', it.nextBack f.rfind c = .ok (rem.getLast?, it') c' ∧
      Refines hay ns it' rem.dropLast := by
  obtain ⟨a, b, rfl, hab, hbl, rfl⟩ := R.dest
  obtain ⟨hs, he⟩ := window_inb hv (a := a) hbl
  obtain ⟨r, c', hrun, hres⟩ := hf.rfind_res (hay.ptr + a) (hay.ptr + b) c hs he
  unfold Iter.nextBack
  rw [bind_ok hrun]
  cases r with
  | none =>
    have hnil := matchesIn_nil (f := posPred hay ns) (NoHit.index hres)
    have R0 : Refines hay ns _ [] := hnil ▸ Refines.intro (ns := ns) hab hbl
    rw [hnil]
    exact ⟨_, c', rfl, R0⟩
  | some x =>
    obtain ⟨i, rfl, hai, hib, hp, hn⟩ := LastRes.index hres
    obtain ⟨-, hei⟩ := window_inb hv (a := i) (b := i) (Nat.le_trans (Nat.le_of_lt hib) hbl)
    rw [matchesIn_last (f := posPred hay ns) hai hib hp hn, List.getLast?_concat,
      List.dropLast_concat]
    simp only []
    rw [Mem.distance_eq rfl (Slice.Valid.ptr_le hv) hei, pure_bind']
    exact ⟨_, c', rfl, Refines.intro hai (Nat.le_trans (Nat.le_of_lt hib) hbl)⟩

theorem countP_window_eq (hay : Slice) (ns : Needles) (a b : Nat) :
    Spec.countP ns.confirm (hay.mem.window (hay.ptr + a) (hay.ptr + b - (hay.ptr + a)))
      = (matchesIn (posPred hay ns) a b).length := by
  unfold Spec.countP matchesIn Mem.window
  rw [Nat.add_sub_add_left, ← List.countP_eq_length_filter, List.range'_eq_map_range,
    List.countP_map, List.countP_map]
  apply List.countP_congr
  intro i _
  simp only [Function.comp, posPred, Nat.add_assoc]

theorem count_refines_raw (hv : hay.Valid) (hf : RawOk f ns hay.mem) {it : Iter}
    {rem : List Nat} (R : Refines hay ns it rem) (cr) (hcr : f.count = some cr) (c : Ctr) :
    ∃ c', it.count cr c = .ok rem.length c' := by
  obtain ⟨a, b, rfl, hab, hbl, rfl⟩ := R.dest
  obtain ⟨hs, he⟩ := window_inb hv (a := a) hbl
  obtain ⟨hrest, hc⟩ := hf.count cr hcr
  obtain ⟨c', hrun⟩ := hc (hay.ptr + a) (hay.ptr + b) c hs he
  obtain ⟨n1, rest⟩ := ns
  cases hrest
  refine ⟨c', ?_⟩
  rw [Iter.count, hrun, ← countP_window_eq, specCount, ← Swar.One.confirm_eq]
  rfl

/-- the default `Iterator::count` (a `next` loop): with enough fuel it returns the number of
remaining elements and never runs out of fuel -/
theorem countByNext_refines (hv : hay.Valid) (hf : RawOk f ns hay.mem) (fuel : Nat) {it : Iter}
    {rem : List Nat} (R : Refines hay ns it rem) (acc : Nat) (hfuel : rem.length < fuel)
    (c : Ctr) :
    ∃ c', Iter.countByNext f.find fuel it acc c = .ok (acc + rem.length) c' := by
  induction fuel generalizing it rem acc c with
  | zero => omega
  | succ k ih =>
    obtain ⟨it', c', hrun, R'⟩ := next_refines hv hf R c
    unfold Iter.countByNext
    rw [bind_ok hrun]
    cases rem with
    | nil => exact ⟨c', rfl⟩
    | cons x xs =>
      simp only [List.head?_cons, List.tail_cons, List.length_cons] at R' hfuel ⊢
      obtain ⟨c'', h⟩ := ih R' (acc + 1) (by omega) c'
      exact ⟨c'', by rw [h, Nat.add_assoc, Nat.add_comm 1]⟩

theorem countWith_refines (hv : hay.Valid) (hf : RawOk f ns hay.mem) {it : Iter}
    {rem : List Nat} (R : Refines hay ns it rem) (c : Ctr) :
    ∃ c', it.countWith f c = .ok rem.length c' := by
  unfold Iter.countWith
  cases hc : f.count with
  | some cr => exact count_refines_raw hv hf R cr hc c
  | none =>
    obtain ⟨c', h⟩ := countByNext_refines hv hf (it.end_ - it.start + 1) R 0
      (Nat.lt_succ_of_le R.length_le) c
    rw [Nat.zero_add] at h
    exact ⟨c', h⟩

theorem step_refines (hv : hay.Valid) (hf : RawOk f ns hay.mem) (op : Op) {it : Iter}
    {rem : List Nat} (R : Refines hay ns it rem) (c : Ctr) :
    ∃ o it' c', it.step f op c = .ok (o, it') c' ∧ OutOk o (absStep op rem).1 ∧
      Refines hay ns it' (absStep op rem).2 := by
  cases op with
  | next =>
    obtain ⟨it', c', hrun, R'⟩ := next_refines hv hf R c
    exact ⟨.idx rem.head?, it', c', by rw [Iter.step, bind_ok hrun]; rfl,
      (rfl : rem.head? = rem.head?), R'⟩
  | nextBack =>
    obtain ⟨it', c', hrun, R'⟩ := nextBack_refines hv hf R c
    exact ⟨.idx rem.getLast?, it', c', by rw [Iter.step, bind_ok hrun]; rfl,
      (rfl : rem.getLast? = rem.getLast?), R'⟩
  | sizeHint =>
    exact ⟨.hint 0 (some (it.end_ - it.start)), it, c, rfl,
      ⟨rfl, it.end_ - it.start, rfl, R.length_le⟩, R⟩
  | count =>
    obtain ⟨c', hrun⟩ := countWith_refines hv hf R c
    exact ⟨.cnt rem.length, it, c', by rw [Iter.step, bind_ok hrun]; rfl,
      (rfl : rem.length = rem.length), R⟩

/-- C06.refines (general form): from any related pair of states, every finite sequence of
operations runs without fault, each output is acceptable for the abstract iterator's output,
and the final states are related again. -/
theorem run_refines (hv : hay.Valid) (hf : RawOk f ns hay.mem) (ops : List Op) {it : Iter}
    {rem : List Nat} (R : Refines hay ns it rem) (c : Ctr) :
    ∃ outs it' c', Iter.run f ops it c = .ok (outs, it') c' ∧
      OutsOk outs (absRun ops rem).1 ∧ Refines hay ns it' (absRun ops rem).2 := by
  induction ops generalizing it rem c with
  | nil => exact ⟨[], it, c, rfl, OutsOk.nil, R⟩
  | cons op ops ih =>
    obtain ⟨o, it1, c1, h1, ok1, R1⟩ := step_refines hv hf op R c
    obtain ⟨os, it2, c2, h2, ok2, R2⟩ := ih R1 c1
    exact ⟨o :: os, it2, c2, by rw [Iter.run, bind_ok h1]; exact bind_ok h2,
      OutsOk.cons ok1 ok2, R2⟩

end

/-! ### the properties -/

/-- the only hypothesis (`hay.Valid`) is satisfiable by a non-trivial input: bytes 3..13 of a
40-byte region at an odd address -/
example : (⟨⟨0, 1001, Array.replicate 40 0⟩, 3, 10⟩ : Slice).Valid := by
  simp [Slice.Valid]

/-- C07.iter_count: after ANY prefix of operations on a fresh iterator, `count` (of
`Memchr`: `count_raw` on the CURRENT window; of `Memchr2`/`Memchr3`: the default `next` loop)
returns exactly the number of elements the abstract iterator has left. -/
theorem iter_count {f : RawFns} {ns : Needles} {hay : Slice} (hv : hay.Valid)
    (hf : RawOk f ns hay.mem) (ops : List Op) (c : Ctr) :
    ∃ outs it' c' c'', Iter.run f ops (Iter.new hay) c = .ok (outs, it') c' ∧
      it'.countWith f c' = .ok (absRun ops (allMatches hay ns)).2.length c'' := by
  obtain ⟨outs, it', c', hrun, _, R'⟩ := run_refines hv hf ops (refines_new hay ns) c
  obtain ⟨c'', hc⟩ := countWith_refines hv hf R' c'
  exact ⟨outs, it', c', c'', hrun, hc⟩

/-- The abstract initial state is what it should be: exactly the positions of the haystack
holding a needle byte, in increasing order. -/
theorem allMatches_spec (hay : Slice) (ns : Needles) :
    (allMatches hay ns).Pairwise (· < ·) ∧
    ∀ i, i ∈ allMatches hay ns ↔ i < hay.len ∧ ns.confirm (hay.mem.byteAt (hay.ptr + i)) = true :=
  ⟨matchesIn_sorted _ _ _, fun i =>
    mem_matchesIn.trans ⟨fun h => h.2, fun h => ⟨Nat.zero_le i, h⟩⟩⟩

end Memchr.Api

namespace Memchr.Bridge2

open Memchr.Api

/-! ### the abstract iterator yields every element exactly once -/

/-- the values yielded by the `next` calls of a run, in call order -/
def fronts : List Op → List Out → List Nat
  | .next :: ops, .idx (some i) :: outs => i :: fronts ops outs
  | _ :: ops, _ :: outs => fronts ops outs
  | _, _ => []

/-- the values yielded by the `next_back` calls of a run, in call order -/
def backs : List Op → List Out → List Nat
  | .nextBack :: ops, .idx (some i) :: outs => i :: backs ops outs
  | _ :: ops, _ :: outs => backs ops outs
  | _, _ => []

/-- One abstract step: what it yields at the front, what it leaves, what it yields at the back. -/
theorem absStep_partition (op : Op) (rem : List Nat) (ops : List Op) (rest : List Nat)
    (outs : List Out)
    (h : fronts ops outs ++ rest ++ (backs ops outs).reverse = (absStep op rem).2) :
    fronts (op :: ops) ((absStep op rem).1 :: outs) ++ rest ++
      (backs (op :: ops) ((absStep op rem).1 :: outs)).reverse = rem := by
  cases op with
  | next =>
    cases rem with
    | nil => exact h
    | cons x xs => exact congrArg (x :: ·) h
  | nextBack =>
    rcases List.eq_nil_or_concat rem with rfl | ⟨xs, x, rfl⟩
    · exact h
    · rw [List.concat_eq_append] at h ⊢
      simp only [absStep, List.getLast?_concat, List.dropLast_concat] at h ⊢
      show fronts ops outs ++ rest ++ (x :: backs ops outs).reverse = xs ++ [x]
      rw [List.reverse_cons, ← List.append_assoc, h]
  | sizeHint => exact h
  | count => exact h

/-- Running the abstract iterator from `rem` splits `rem` into: what `next` yielded (in call
order), what is left, what `next_back` yielded (in reverse call order). -/
theorem absRun_partition (ops : List Op) (rem : List Nat) :
    fronts ops (absRun ops rem).1 ++ (absRun ops rem).2 ++ (backs ops (absRun ops rem).1).reverse
      = rem := by
  induction ops generalizing rem with
  | nil => exact List.append_nil _
  | cons op ops ih =>
    rw [absRun_cons]
    exact absStep_partition op rem ops _ _ (ih _)

/-- `fronts` / `backs` look only at the `next` / `next_back` outputs, on which a model run and the
abstract run agree exactly -/
theorem yields_congr {ops : List Op} {outs aouts : List Out} (h : OutsOk outs aouts) :
    fronts ops outs = fronts ops aouts ∧ backs ops outs = backs ops aouts := by
  induction h generalizing ops with
  | nil => cases ops <;> exact ⟨rfl, rfl⟩
  | @cons a b as bs hab _ ih =>
    cases ops with
    | nil => exact ⟨rfl, rfl⟩
    | cons op ops =>
      obtain ⟨ih1, ih2⟩ := ih (ops := ops)
      cases a <;> cases b <;> simp only [OutOk] at hab
      · subst hab
        rename_i o
        cases op with
        | next =>
          cases o with
          | none => exact ⟨ih1, ih2⟩
          | some i => exact ⟨congrArg (i :: ·) ih1, ih2⟩
        | nextBack =>
          cases o with
          | none => exact ⟨ih1, ih2⟩
          | some i => exact ⟨ih1, congrArg (i :: ·) ih2⟩
        | sizeHint => exact ⟨ih1, ih2⟩
        | count => exact ⟨ih1, ih2⟩
      · cases op <;> exact ⟨ih1, ih2⟩
      · cases op <;> exact ⟨ih1, ih2⟩

/-- C06 in one statement about the real run: the outputs of the `next` calls, then the matches
inside the final window, then the outputs of the `next_back` calls reversed, are together exactly
the list of all match positions of the haystack. -/
theorem run_partition {f : RawFns} {ns : Needles} {hay : Slice} (hv : hay.Valid)
    (hf : RawOk f ns hay.mem) (ops : List Op) (c : Ctr) :
    ∃ outs it' c' rem, Iter.run f ops (Iter.new hay) c = .ok (outs, it') c' ∧
      Refines hay ns it' rem ∧
      fronts ops outs ++ rem ++ (backs ops outs).reverse = allMatches hay ns := by
  obtain ⟨outs, it', c', hrun, hok, R'⟩ := run_refines hv hf ops (refines_new hay ns) c
  refine ⟨outs, it', c', _, hrun, R', ?_⟩
  rw [(yields_congr hok).1, (yields_congr hok).2]
  exact absRun_partition ops (allMatches hay ns)

/-- C07 on a partially consumed iterator, in terms of what has been yielded: after any prefix of
operations, `count` returns (number of matches of the haystack) - (number of values yielded by
`next`) - (number of values yielded by `next_back`). -/
theorem count_after_prefix {f : RawFns} {ns : Needles} {hay : Slice} (hv : hay.Valid)
    (hf : RawOk f ns hay.mem) (ops : List Op) (c : Ctr) :
    ∃ outs it' c' k c'', Iter.run f ops (Iter.new hay) c = .ok (outs, it') c' ∧
      it'.countWith f c' = .ok k c'' ∧
      (fronts ops outs).length + k + (backs ops outs).length = (allMatches hay ns).length := by
  obtain ⟨outs, it', c', rem, hrun, R', hpart⟩ := run_partition hv hf ops c
  obtain ⟨c'', hc⟩ := countWith_refines hv hf R' c'
  refine ⟨outs, it', c', rem.length, c'', hrun, hc, ?_⟩
  rw [← hpart]
  simp only [List.length_append, List.length_reverse]

end Memchr.Bridge2

#print axioms Memchr.Api.run_refines
#print axioms Memchr.Api.allMatches_spec
#print axioms Memchr.Api.ofCfg_eq_ofBackend
#print axioms Memchr.Bridge2.absRun_partition
#print axioms Memchr.Bridge2.run_partition
#print axioms Memchr.Bridge2.count_after_prefix
