/-
C15.any_schedule: whatever the number of threads, the interleaving of their loads / stores /
calls and whichever previously stored value each relaxed load of `FN` returns, every call made
through the `unsafe_ifunc!` cell returns what the implementation chosen by `detect` returns,
hence the specified value.

Invariant: every value ever stored in `FN` (and every value a thread holds from a load) is
`detect` or `find_<x86Detect cfg>`.
-/
import MemchrModel.Model.Concurrency
import MemchrModel.Proofs.MemchrApi

namespace Memchr.Concurrency

open Memchr.Api

/-- `v` is `detect` or the implementation `detect` chooses -/
def Good (cfg : Cfg) (v : FnVal) : Prop := v = .detect ∨ v = .impl (x86Detect cfg)

structure Inv {Args R : Type} (I : Ifunc Args R) (cfg : Cfg) (P : Args → Res R → Prop)
    (st : State Args R) : Prop where
  stored : ∀ v ∈ st.stored, Good cfg v
  pending : ∀ t v, st.pending t = some v → Good cfg v
  results : ∀ r ∈ st.results, P r.2.1 r.2.2

section
variable {Args R : Type} {I : Ifunc Args R} {cfg : Cfg} {P : Args → Res R → Prop}

theorem inv_init (queue : Nat → List Args) : Inv I cfg P (init queue) where
  stored := fun _ hv => Or.inl (List.mem_singleton.mp hv)
  pending := fun _ _ h => nomatch h
  results := fun _ h => nomatch h

theorem upd_some {α : Type} {f : Nat → Option α} {t t' : Nat} {v : Option α} {w : α}
    (h : upd f t v t' = some w) : (t' = t ∧ v = some w) ∨ f t' = some w := by
  unfold upd at h
  split at h
  · exact Or.inl ⟨by assumption, h⟩
  · exact Or.inr h

theorem inv_step (hP : ∀ a, P a (I.run (x86Detect cfg) a {})) {st : State Args R}
    (h : Inv I cfg P st) (tid idx : Nat) : Inv I cfg P (step I cfg st tid idx) := by
  unfold step
  split
  · exact h
  · rename_i a rest _
    -- what both kinds of completed call do: consume the loaded value, record the outcome
    have hpend : ∀ t v, upd st.pending tid none t = some v → Good cfg v := by
      intro t v hv
      rcases upd_some hv with ⟨_, hv⟩ | hv
      · cases hv
      · exact h.pending t v hv
    have hres : ∀ r ∈ (tid, a, I.run (x86Detect cfg) a {}) :: st.results, P r.2.1 r.2.2 := by
      intro r hr
      rcases List.mem_cons.mp hr with rfl | hr
      · exact hP a
      · exact h.results r hr
    split
    · -- load: the value returned is one of those stored
      refine ⟨h.stored, ?_, h.results⟩
      intro t v hv
      rcases upd_some hv with ⟨_, hv⟩ | hv
      · obtain rfl := Option.some.inj hv
        rw [List.getD_eq_getElem?_getD]
        cases hget : st.stored[idx % st.stored.length]? with
        | none => exact Or.inl rfl
        | some w => exact h.stored w (List.mem_of_getElem? hget)
      · exact h.pending t v hv
    · -- `detect` stores its choice and calls it
      refine ⟨?_, hpend, hres⟩
      intro v hv
      rcases List.mem_append.mp hv with hv | hv
      · exact h.stored v hv
      · exact Or.inr (List.mem_singleton.mp hv)
    · -- `find_<b>`: a loaded value other than `detect` is the choice
      rename_i b hpend'
      obtain rfl : b = x86Detect cfg := by
        rcases h.pending tid _ hpend' with h1 | h1
        · cases h1
        · exact FnVal.impl.inj h1
      exact ⟨h.stored, hpend, hres⟩

theorem inv_run (hP : ∀ a, P a (I.run (x86Detect cfg) a {})) (sched : Schedule)
    {st : State Args R} (h : Inv I cfg P st) : Inv I cfg P (runSchedule I cfg st sched) := by
  induction sched generalizing st with
  | nil => exact h
  | cons s rest ih =>
    obtain ⟨tid, idx⟩ := s
    exact ih (inv_step hP h tid idx)

/-- C15.any_schedule (general form): if the implementation chosen by `detect` satisfies `P` on
every argument tuple, then in every state reachable from the initial one by ANY schedule (any
number of threads, any per-thread call sequence, any interleaving, any choice of load results)
every completed call satisfies `P`; in particular no call ever ran an implementation other
than the chosen one. -/
theorem any_schedule (I : Ifunc Args R) (cfg : Cfg) (P : Args → Res R → Prop)
    (hP : ∀ a, P a (I.run (x86Detect cfg) a {})) (queue : Nat → List Args) (sched : Schedule) :
    ∀ r ∈ (runSchedule I cfg (init queue) sched).results, P r.2.1 r.2.2 :=
  (inv_run hP sched (inv_init queue)).results

end

/-! ### the model is not vacuous: calls do complete -/

/-- A concrete two-thread race: both threads load `detect` before either stores; thread 1 then
makes a second call whose load sees the initial (stale) `detect` again; thread 0's second call
sees a stored implementation. All four calls complete (by `any_schedule` each with the specified
result, here `some 1002`), and `FN` has been stored to three times with the same value. -/
example :
    let m : Mem := ⟨0, 1001, #[0x62, 0x61, 0x62, 0x61]⟩
    let a : FindArgs := ⟨⟨0x61, []⟩, m, 1001, 1005⟩
    let cfg : Cfg := { arch := .x86_64, ctSse2 := true, ctAvx2 := false, ctNeon := false,
                       std := true, cpuAvx2 := true }
    let st := runSchedule (findIfunc false) cfg (init (fun t => if t < 2 then [a, a] else []))
      [(0, 0), (1, 0), (0, 0), (1, 0), (1, 0), (1, 0), (0, 2), (0, 0)]
    st.results.map (fun r => r.1) = [0, 1, 1, 0]
    ∧ st.stored = [.detect, .impl .avx2, .impl .avx2, .impl .avx2] := by
  decide

end Memchr.Concurrency

#print axioms Memchr.Concurrency.any_schedule
