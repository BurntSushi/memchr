/-
C16 / C17 (+ C03, C04, C08) for the EXTENDED finder op machines of `Model/Memmem.lean`
(`Finder.runX`, `FinderRev.runX`: the `FinderOp` operations plus "run `find_iter(hay)` /
`rfind_iter(hay)` to exhaustion and report the number of matches"), which are what the driver
ops `finderops` / `finderrevops` execute.

An `iter` observation is `Spec.greedyFwd(hay, needle).length` resp. `Spec.greedyRev(..).length`
whatever the ownership of the finder, and costs no allocation: `find_iter` / `rfind_iter` work
on `self.as_ref()`, a borrowed copy.
-/
import MemchrModel.Proofs.Memmem

namespace Memchr.Memmem

open Memchr.Bridge3

def FinderOpX.own : FinderOpX → OwnOp
  | .base op => op.own
  | .iter _ => .other

def FinderOpX.Ok : FinderOpX → Prop
  | .base op => op.Ok
  | .iter hay => hay.Valid

/-- reference observation of one extended op of a forward finder -/
def refStepX (x : Array UInt8) : FinderOpX → List OutX
  | .base op => (refFinder x [op]).map OutX.base
  | .iter hay => [.count (Spec.greedyFwd hay.toArray x).length]

/-- reference observation of one extended op of a reverse finder -/
def refStepRevX (x : Array UInt8) : FinderOpX → List OutX
  | .base op => (refFinderRev x [op]).map OutX.base
  | .iter hay => [.count (Spec.greedyRev hay.toArray x).length]

/-- the `base` arm is the step of the base machine, the `iter` arm is `countIter_ok` -/
theorem Finder.stepX_refines (cfg : Api.Cfg) {n0 : Slice} (hn0 : n0.Valid) {op : FinderOpX}
    (hop : op.Ok) :
    StepRefines (Finder.stepX cfg) (fun ops (_ : Unit) => ops.flatMap (refStepX n0.toArray))
      (Finder.GoodFor n0) (fun _ => ()) (fun f => f.needle.own) FinderOpX.own n0.len op := by
  intro f h c hg
  cases op with
  | base op =>
    obtain ⟨o, f', h', c', e, hg', hout, hown, hal⟩ := Finder.step_refines cfg hn0 hop f h c hg
    refine ⟨o.map OutX.base, f', h', c', bind_ok e, hg', fun ops => ?_, hown, hal⟩
    have := hout []
    simp only [refFinder, List.append_nil] at this
    simp only [List.flatMap_cons, refStepX, ← this, Option.toList_map]
  | iter hay =>
    obtain ⟨c1, hk⟩ := Finder.countIter_ok cfg hg hn0 hay hop c
    exact ⟨_, f, h, c1, bind_ok hk, hg, fun _ => rfl, rfl, (OwnOp.cost_other _ _).symm ▸ rfl⟩

/-- **C16 + C17 (+ C03, C08) for `finderops`**: any extended operation sequence on a forward
finder for the bytes of `n0` returns normally with the reference observations and exactly
`refAllocs` allocations; `iter` ops count `Spec.greedyFwd` and never allocate. -/
theorem Finder.runX_ok (cfg : Api.Cfg) (n0 : Slice) (hn0 : n0.Valid) (ops : List FinderOpX)
    (hops : ∀ op ∈ ops, op.Ok) (f : Finder) (hg : f.GoodFor n0) (h : Heap) (c : Ctr) :
    ∃ f' h' c', Finder.runX cfg ops f h c =
        .ok (ops.flatMap (refStepX n0.toArray), f', h') c' ∧
      f'.GoodFor n0 ∧
      h'.allocs = h.allocs + refAllocs n0.len f.needle.own (ops.map FinderOpX.own) :=
  run_refines (fun _ _ => rfl) (fun _ _ _ _ => rfl) (fun _ => rfl) ops
    (fun op ho => Finder.stepX_refines cfg hn0 (hops op ho)) f h c hg

theorem FinderRev.stepX_refines (cfg : Api.Cfg) {n0 : Slice} (hn0 : n0.Valid) {op : FinderOpX}
    (hop : op.Ok) :
    StepRefines (FinderRev.stepX cfg) (fun ops (_ : Unit) => ops.flatMap (refStepRevX n0.toArray))
      (FinderRev.GoodFor n0) (fun _ => ()) (fun f => f.needle.own) FinderOpX.own n0.len op := by
  intro f h c hg
  cases op with
  | base op =>
    obtain ⟨o, f', h', c', e, hg', hout, hown, hal⟩ := FinderRev.step_refines cfg hn0 hop f h c hg
    refine ⟨o.map OutX.base, f', h', c', bind_ok e, hg', fun ops => ?_, hown, hal⟩
    have := hout []
    simp only [refFinderRev, List.append_nil] at this
    simp only [List.flatMap_cons, refStepRevX, ← this, Option.toList_map]
  | iter hay =>
    obtain ⟨c1, hk⟩ := FinderRev.countIter_ok cfg hg hn0 hay hop c
    exact ⟨_, f, h, c1, bind_ok hk, hg, fun _ => rfl, rfl, (OwnOp.cost_other _ _).symm ▸ rfl⟩

/-- **C16 + C17 (+ C04, C08) for `finderrevops`**: the same for a reverse finder; `iter` ops
count `Spec.greedyRev`. -/
theorem FinderRev.runX_ok (cfg : Api.Cfg) (n0 : Slice) (hn0 : n0.Valid) (ops : List FinderOpX)
    (hops : ∀ op ∈ ops, op.Ok) (f : FinderRev) (hg : f.GoodFor n0) (h : Heap) (c : Ctr) :
    ∃ f' h' c', FinderRev.runX cfg ops f h c =
        .ok (ops.flatMap (refStepRevX n0.toArray), f', h') c' ∧
      f'.GoodFor n0 ∧
      h'.allocs = h.allocs + refAllocs n0.len f.needle.own (ops.map FinderOpX.own) :=
  run_refines (fun _ _ => rfl) (fun _ _ _ _ => rfl) (fun _ => rfl) ops
    (fun op ho => FinderRev.stepX_refines cfg hn0 (hops op ho)) f h c hg

/-- `finderops`, end to end: `FinderBuilder` finder (any configuration, prefilter setting,
ranker), then any extended operation sequence -/
theorem C16.finder_runX_all (cfg : Api.Cfg) (b : FinderBuilder) (rank : UInt8 → UInt8)
    (needle : Slice) (hn : needle.Valid) (ops : List FinderOpX) (hops : ∀ op ∈ ops, op.Ok)
    (h : Heap) (c : Ctr) :
    ∃ f' h' c', (b.buildForwardWithRanker cfg rank needle >>= fun f =>
        Finder.runX cfg ops f h) c = .ok (ops.flatMap (refStepX needle.toArray), f', h') c' ∧
      h'.allocs = h.allocs + refAllocs needle.len .borrowed (ops.map FinderOpX.own) := by
  obtain ⟨f, c1, hb, hg, _, ho, _⟩ := FinderBuilder.build_run cfg b rank needle hn c
  obtain ⟨f', h', c', hr, _, ha⟩ := Finder.runX_ok cfg needle hn ops hops f hg h c1
  exact ⟨f', h', c', by rw [bind_ok hb, hr], by rw [ha, ho]⟩

/-- `finderrevops`, end to end -/
theorem C16.finderRev_runX_all (cfg : Api.Cfg) (needle : Slice) (hn : needle.Valid)
    (ops : List FinderOpX) (hops : ∀ op ∈ ops, op.Ok) (h : Heap) (c : Ctr) :
    ∃ f' h' c', (FinderRev.new needle >>= fun f => FinderRev.runX cfg ops f h) c =
        .ok (ops.flatMap (refStepRevX needle.toArray), f', h') c' ∧
      h'.allocs = h.allocs + refAllocs needle.len .borrowed (ops.map FinderOpX.own) := by
  obtain ⟨f, c1, hb, hg, ho, _⟩ := FinderRev.new_run needle hn c
  obtain ⟨f', h', c', hr, _, ha⟩ := FinderRev.runX_ok cfg needle hn ops hops f hg h c1
  exact ⟨f', h', c', by rw [bind_ok hb, hr], by rw [ha, ho]⟩

/-- **C17, the `as_ref` inside `find_iter` / `rfind_iter`**: iterating an OWNED finder allocates
nothing (`into_owned`, then any number of `iter` ops: exactly the one allocation of
`into_owned`; a `clone()` in place of `as_ref()` would add one per `iter`). -/
example : refAllocs 3 .borrowed
    ([FinderOpX.base .intoOwned, .iter default, .iter default, .iter default].map
      FinderOpX.own) = 1 := by decide

/-- the hypotheses are satisfiable -/
example : FinderOpX.Ok (.iter ⟨⟨0, 65536, #[97, 97, 97, 97]⟩, 1, 3⟩) ∧
    FinderOpX.Ok (.base (.find ⟨⟨0, 65536, #[97, 97, 97, 97]⟩, 0, 4⟩)) := by
  simp [FinderOpX.Ok, FinderOp.Ok, Slice.Valid]

end Memchr.Memmem

section AxiomCheck
open Memchr.Memmem
#print axioms Finder.runX_ok
#print axioms FinderRev.runX_ok
#print axioms C16.finder_runX_all
#print axioms C16.finderRev_runX_all
end AxiomCheck
