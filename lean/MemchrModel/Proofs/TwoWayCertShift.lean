/-
T1 and T3 (DESIGN section 8) on the model: from the two maximal suffixes computed by
`Suffix::forward` the larger start is a critical position in the strong form `Core`, and
`Shift::forward` called with that position and the smallest period of the right part returns
`Small { period }` with the smallest period of the needle, or `Large { shift }` with a shift
that is at most the smallest period.  Together: the certificate `CertFwd`.
-/
import MemchrModel.Proofs.TwoWayCertSuffix
import MemchrModel.Proofs.IsEqual

namespace Memchr.TwoWay

open Words

theorem perW_of_per {n : Slice} (hn : n.Valid) {k : Nat} (h : Per n.toArray k) :
    PerW n.getD 0 n.len k :=
  fun t _ ht => per_getD hn h t ht

theorem isSuffix_iff (n : Slice) (crit p : Nat) :
    (⟨n.mem, n.off, crit⟩ : Slice).toList <:+ (⟨n.mem, n.off + crit, p⟩ : Slice).toList ↔
      crit ≤ p ∧ ∀ t, t < crit → n.getD t = n.getD (t + p) := by
  constructor
  · intro hsuf
    have hlen : crit ≤ p := by
      have := hsuf.length_le
      simpa using this
    refine ⟨hlen, fun t ht => ?_⟩
    rw [List.suffix_iff_eq_drop] at hsuf
    have h1 : (⟨n.mem, n.off, crit⟩ : Slice).toList[t]? = some (n.getD t) := by
      rw [Slice.toList_getElem? _ t ht]; rfl
    rw [hsuf, List.getElem?_drop] at h1
    simp only [Slice.toList_length] at h1
    rw [Slice.toList_getElem? _ _ (show p - crit + t < p by omega), Slice.drop_getD] at h1
    rw [← Option.some.inj h1]
    congr 1; omega
  · rintro ⟨hle, h⟩
    rw [List.suffix_iff_eq_drop]
    apply List.ext_getElem?
    intro t
    simp only [Slice.toList_length, List.getElem?_drop]
    by_cases ht : t < crit
    · rw [Slice.toList_getElem? _ t ht, Slice.toList_getElem? _ _ (show p - crit + t < p by omega),
        Slice.take_getD, Slice.drop_getD, h t ht]
      congr 2; omega
    · rw [List.getElem?_eq_none (by simp only [Slice.toList_length]; omega),
        List.getElem?_eq_none (by simp only [Slice.toList_length]; omega)]

/-- the bound `|v| / 4 + 2` of an `is_suffix(v, u)` / `is_prefix(v, u)` call, in terms of a longer
slice -/
theorem quarter_steps_mono {a b l n : Nat} (h : a ≤ b + l / 4 + 2) (hl : l ≤ n) :
    a ≤ b + n / 4 + 2 :=
  Nat.le_trans h (Nat.add_le_add_right (Nat.add_le_add_left (Nat.div_le_div_right hl) b) 2)

/-- the `Large` shift `max crit (len - crit)` lies in `[len / 2, len]` -/
theorem large_shape {N c d : Nat} (h : N = d + c) : N ≤ 2 * max c d ∧ max c d ≤ N := by omega

section

variable {n : Slice} {lt : UInt8 → UInt8 → Prop} {crit p : Nat}

/-- the `Small` answer: when the left part repeats at distance `p`, the smallest period of the
right part, `p` is the smallest period of the needle -/
theorem small_of_suffix (hnv : n.Valid) (w : Win lt n.getD n.len crit n.len p)
    (hu : ∀ t, t < crit → n.getD t = n.getD (t + p)) :
    Per n.toArray p ∧ ∀ k, Per n.toArray k → p ≤ k := by
  refine ⟨(per_iff_getD hnv).mpr ⟨w.p1, fun t ht => ?_⟩,
    fun k hpk => Nat.le_of_not_lt fun hkp => ?_⟩
  · rcases Nat.lt_or_ge t crit with htc | htc
    · exact hu t htc
    · exact w.per t htc ht
  · exact w.minp k hpk.1 hkp ((perW_of_per hnv hpk).mono (Nat.zero_le _) (Nat.le_refl _))

/-- the `Large` answer after a failed suffix test: a period of the needle shorter than the right
part would make the test succeed (T3) -/
theorem suffix_of_short_per (hnv : n.Valid)
    (hcore : ∀ k, 1 ≤ k → LRF n.getD n.len crit k → crit < k ∧ PerW n.getD 0 n.len k)
    (w : Win lt n.getD n.len crit n.len p) {k : Nat} (hpk : Per n.toArray k)
    (hk : crit + k ≤ n.len) : crit ≤ p ∧ ∀ t, t < crit → n.getD t = n.getD (t + p) := by
  obtain ⟨hcp, hpp⟩ := per_of_short_per hcore w.p1 w.per w.minp hpk.1 (perW_of_per hnv hpk) hk
  exact ⟨Nat.le_of_lt hcp, fun t ht =>
    hpp t (Nat.zero_le _) (Nat.lt_of_lt_of_le (Nat.add_lt_add_right ht p) w.ip)⟩

end

/-- **T3.**  From the exit invariants of the two `Suffix::forward` runs (`w` for the kind whose
start `crit` is the larger one, `w'` for the other kind, start `d <= crit`), `crit` satisfies the
conclusion of T1 and `p` is the smallest period of `needle[crit..]`.  Then
`Shift::forward(needle, p, crit)` returns normally, within `len / 4 + 2` steps (the one
`is_suffix` call), with a shift that, together with `crit`, satisfies the certificate; a `Large`
shift lies in `[len / 2, len]`, and `Small` is only answered when the left part is the shorter
one and `crit + period <= len`. -/
theorem shift_forward_of_wins (n : Slice) (hnv : n.Valid) {lt : UInt8 → UInt8 → Prop}
    (ho : StrictTotal lt) {crit p d p' : Nat}
    (w : Win lt n.getD n.len crit n.len p)
    (w' : Win (fun a b => lt b a) n.getD n.len d n.len p') (hd : d ≤ crit) (c : Ctr) :
    ∃ sh c', Shift.forward n p crit c = .ok sh c' ∧ CertFwd n.toArray crit sh ∧
      c'.steps ≤ c.steps + n.len / 4 + 2 ∧ (∀ s, sh = .large s → n.len ≤ 2 * s ∧ s ≤ n.len) ∧
      (∀ q, sh = .small q → crit * 2 < n.len ∧ crit + q ≤ n.len) := by
  have hcore : ∀ k, 1 ≤ k → LRF n.getD n.len crit k → crit < k ∧ PerW n.getD 0 n.len k :=
    fun _ hk hlr => crit_core ho w.maxSuf w'.right hd hk hlr
  have hC : Core n.toArray crit := fun k hk hlr =>
    have ⟨h1, h2⟩ := hcore k hk ((lr_iff_getD hnv).mp hlr)
    ⟨(per_iff_getD hnv).mpr ⟨hk, fun t => h2 t (Nat.zero_le t)⟩, h1⟩
  have hcp := w.ip
  have hcrit : crit ≤ n.len := Nat.le_trans (Nat.le_add_right crit p) hcp
  -- `r`: the length of the right part
  obtain ⟨r, hr⟩ := Nat.exists_eq_add_of_le' hcrit
  have hpr : p ≤ r := by omega
  -- the `Large` answer is a certificate when no period is shorter than the right part
  have hlarge : (∀ k, Per n.toArray k → r ≤ k) →
      CertFwd n.toArray crit (.large (max crit r)) := fun hk =>
    ⟨hC, fun _ => Nat.le_trans (Nat.le_trans w.p1 hpr) (Nat.le_max_right _ _),
      fun k hpk => Nat.max_le.mpr ⟨Nat.le_of_lt (hC.crit_lt_per hpk), hk k hpk⟩⟩
  have hshape : ∀ s, Shift.large (max crit r) = .large s → n.len ≤ 2 * s ∧ s ≤ n.len := by
    rintro s ⟨⟩
    exact large_shape hr
  unfold Shift.forward
  simp only [csub_eq hr.symm, pure_bind']
  by_cases h2 : crit * 2 ≥ n.len
  · -- the left part is the longer one, and every period exceeds it
    simp only [h2, if_true]
    refine ⟨_, c, rfl, hlarge (fun k hpk => ?_),
      Nat.le_trans (Nat.le_add_right _ _) (Nat.le_add_right _ _), hshape, nofun⟩
    have := hC.crit_lt_per hpk
    omega
  · simp only [h2, if_false, Slice.take_ok hcrit, Slice.drop_ok hcrit, pure_bind',
      Nat.sub_eq_of_eq_add hr, Slice.take_ok (s := ⟨n.mem, n.off + crit, r⟩) hpr]
    obtain ⟨c', e, hs⟩ := IsEqual.isSuffix_correct ⟨n.mem, n.off + crit, p⟩ ⟨n.mem, n.off, crit⟩ c
      (Slice.take_valid (Slice.drop_valid hnv hcrit) (Nat.sub_eq_of_eq_add hr ▸ hpr))
      (Slice.take_valid hnv hcrit)
    have hs' : c'.steps ≤ c.steps + n.len / 4 + 2 := quarter_steps_mono hs hcrit
    rw [bind_ok e]
    by_cases hsuf : (⟨n.mem, n.off, crit⟩ : Slice).toList <:+
        (⟨n.mem, n.off + crit, p⟩ : Slice).toList
    · simp only [hsuf, decide_true, Bool.not_true, Bool.false_eq_true, if_false]
      refine ⟨_, c', rfl, ⟨hC, small_of_suffix hnv w ((isSuffix_iff n crit p).mp hsuf).2⟩, hs',
        nofun, ?_⟩
      rintro q ⟨⟩
      exact ⟨Nat.lt_of_not_le h2, hcp⟩
    · simp only [hsuf, decide_false, Bool.not_false, if_true]
      refine ⟨_, c', rfl, hlarge (fun k hpk => Nat.le_of_not_lt fun hk => hsuf ?_), hs', hshape,
        nofun⟩
      exact (isSuffix_iff n crit p).mpr (suffix_of_short_per hnv hcore w hpk (by omega))

theorem cert_of_wins (n : Slice) (hnv : n.Valid) {lt : UInt8 → UInt8 → Prop}
    (ho : StrictTotal lt) {crit p d p' : Nat}
    (w : Win lt n.getD n.len crit n.len p)
    (w' : Win (fun a b => lt b a) n.getD n.len d n.len p') (hd : d ≤ crit) (c : Ctr) :
    ∃ sh c', Shift.forward n p crit c = .ok sh c' ∧ CertFwd n.toArray crit sh :=
  let ⟨sh, c', e, hcert, _⟩ := shift_forward_of_wins n hnv ho w w' hd c
  ⟨sh, c', e, hcert⟩

#print axioms cert_of_wins

end Memchr.TwoWay
