/-
C13 above `Proofs/Searcher.lean`, `Proofs/MemmemFinder.lean` and `Proofs/MemmemIter.lean`, where
every routine has its value and its steps in one statement: the total forms `Cost.prefilter`,
`Cost.searcher_find` that `Props/C13.lean` restates for the prefilter strategies and the meta
searcher, a complete `find_iter` / `rfind_iter` traversal, and the headline of C13.

`FindIter.nexts_run` / `FindRevIter.nexts_run` give the observations of `k` calls of `next()`
together with their steps: a call that answers `Some` pays for itself out of the amount a potential
of the iterator state goes down by (`1048` steps per byte of haystack left forward, `20` per byte
of the reverse position) plus a constant (`2000` / `192`); a call that answers `None` leaves the
potential alone and costs at most one search of the whole haystack.  So `k` calls cost at most

  `1048 * (haystack.len + 1) + (1031 * haystack.len + 17 * needle.len + 2000) * nones + 2000 * k`

forward and `20 * haystack.len + (3 * haystack.len + 17 * needle.len + 192) * nones + 192 * k` in
reverse, `nones = k - matches` the number of `None` answers among the `k`.  A traversal up to and
including the first `None` has `nones <= 1` and `k <= matches + 1`.

The last section is the headline of C13, `Bridge4.linear_work`: the two totals here and the four
build-and-search bounds of `Proofs/MemmemFinder.lean` all lie within the one budget
`2079 * (haystack.len + needle.len) + 5305 * (matches + 1)` (`budget_covers`).
-/
import MemchrModel.Proofs.MemmemIter

namespace Memchr.Cost

open Memchr.Memmem

section
open Fallback (scanned)

/-- **C13 for every prefilter strategy `Searcher::new` builds** (`Props.C13.prefilter_cost` gives
the reading): `Prefilter.find_run` with its bound written as one sum. -/
theorem prefilter (cfg : Api.Cfg) {n : Slice} (hn : n.Valid) {p : Prefilter} (hg : p.GoodFor n)
    (hay : Slice) (hh : hay.Valid) (c : Ctr) :
    ∃ r c', p.find cfg hay c = .ok r c' ∧
      (∀ q, Spec.OccAt hay.toArray n.toArray q → ∃ a, r = some a ∧ a ≤ q) ∧
      (∀ x, r = some x → x < hay.len) ∧
      c'.steps ≤ c.steps + 4 * scanned r hay.len + 1020 := by
  simpa only [Nat.add_assoc] using Prefilter.find_run cfg hn hg hay hh c

end

/-- **C13 for `Searcher::find`** (`Props.C13.searcher_find_cost` gives the reading):
`Searcher.find_run`, stated of whatever searcher a run of `Searcher::new` returned instead of
`Searcher.GoodFor`. -/
theorem searcher_find (cfg : Api.Cfg) (pf : PrefilterConfig) (rank : UInt8 → UInt8)
    (n0 : Slice) (hn0 : n0.Valid) (c0 c0' : Ctr) (s : Searcher)
    (hnew : Searcher.new cfg pf rank n0 c0 = .ok s c0')
    (n hay : Slice) (hn : n.Valid) (hh : hay.Valid) (hb : n.toList = n0.toList)
    (st : PrefilterState) (c : Ctr) :
    ∃ st' c', s.find cfg st hay n c = .ok (Spec.leftmost hay.toArray n.toArray, st') c' ∧
      c'.steps ≤ c.steps + 1031 * Fallback.scanned (Spec.leftmost hay.toArray n.toArray) hay.len +
        17 * n.len + 2000 := by
  obtain ⟨hg, hp, _⟩ := Holds.of_run (Searcher.new_run cfg pf rank n0 hn0 c0) hnew
  simpa only [Nat.add_assoc] using
    Searcher.find_run cfg (hg.congr hb) (hp.congr hb) hay hh hn st c

/-! ### a complete traversal -/

/-- **C13 for a complete `find_iter` traversal**: build a finder, then `k` calls of `next()` for `k`
up to `matches + 1` (all matches and the first `None`).  In the bound, `2079 = 1048 + 1031` per
byte of haystack is the potential plus the one `None` answer, `24 = 7 + 17` per byte of needle is
construction plus that answer, `3305 = 257 + 1048 + 2000` is construction, the `+ 1` of the
potential and the constant of the `None` answer.  So at most
`2079 * (haystack.len + needle.len) + 2000 * (matches + 1) + 3305`. -/
theorem find_iter_total (cfg : Api.Cfg) (b : FinderBuilder) (rank : UInt8 → UInt8)
    (needle hay : Slice) (hn : needle.Valid) (hh : hay.Valid) (k : Nat)
    (hk : k ≤ (Spec.greedyFwd hay.toArray needle.toArray).length + 1) (h : Heap) (c : Ctr) :
    ∃ it' h' c', (b.buildForwardWithRanker cfg rank needle >>= fun f =>
        FindIter.run cfg (List.replicate k .next) (f.findIter hay) h) c =
        .ok ((List.range k).map
          (fun i => Out.idx ((Spec.greedyFwd hay.toArray needle.toArray)[i]?)), it', h') c' ∧
      c'.steps ≤ c.steps + 2079 * hay.len + 24 * needle.len + 2000 * k + 3305 := by
  obtain ⟨f, c1, hb, hg, hp, _, _, h1⟩ := FinderBuilder.build_run cfg b rank needle hn c
  obtain ⟨it', c', hr, _, hs⟩ :=
    FindIter.nexts_run cfg hn hh (Finder.findIter_good hg hay) k h c1
  refine ⟨it', h, c', (bind_ok hb).trans hr, ?_⟩
  have hs : c'.steps + 1048 * (hay.len + 1 - it'.pos) ≤ c1.steps + 1048 * (hay.len + 1 - 0) +
      (1031 * hay.len + 17 * needle.len + 2000) *
        (k - (Spec.greedyFwd hay.toArray needle.toArray).length) + 2000 * k := hs hp
  -- at most one of the `k` answers is a `None`
  have := Nat.mul_le_mul_left (1031 * hay.len + 17 * needle.len + 2000)
    (Nat.sub_le_iff_le_add'.mpr hk)
  omega

/-- **C13 for a complete `rfind_iter` traversal**: `FinderRev::new(needle)`, then `k` calls of
`next()` for `k` up to `matches + 1`.  `23 = 20 + 3` per byte of haystack is the potential plus the
one `None` answer, `24 = 7 + 17`, `194 = 2 + 192`. -/
theorem rfind_iter_total (cfg : Api.Cfg) (needle hay : Slice) (hn : needle.Valid)
    (hh : hay.Valid) (k : Nat)
    (hk : k ≤ (Spec.greedyRev hay.toArray needle.toArray).length + 1) (h : Heap) (c : Ctr) :
    ∃ it' h' c', (FinderRev.new needle >>= fun f =>
        FindRevIter.run cfg (List.replicate k .next) (f.rfindIter hay) h) c =
        .ok ((List.range k).map
          (fun i => Out.idx ((Spec.greedyRev hay.toArray needle.toArray)[i]?)), it', h') c' ∧
      c'.steps ≤ c.steps + 23 * hay.len + 24 * needle.len + 192 * k + 194 := by
  obtain ⟨f, c1, hb, hg, _, h1⟩ := FinderRev.new_run needle hn c
  obtain ⟨it', c', hr, _, hs⟩ :=
    FindRevIter.nexts_run cfg hn hh (FinderRev.rfindIter_good hg hay) k h c1
  rw [show (f.rfindIter hay).pos = some hay.len from rfl, revRest_start hh] at hr hs
  refine ⟨it', h, c', by rw [bind_ok hb, hr], ?_⟩
  -- at most one of the `k` answers is a `None`
  have := Nat.mul_le_mul_left (3 * hay.len + 17 * needle.len + 192)
    (Nat.sub_le_iff_le_add'.mpr hk)
  dsimp only [Option.getD_some] at hs
  omega

/-! ### the hypotheses are satisfiable -/

section Examples

/-- needle "abaab" (region 1) and haystack "abaaabaabab" (region 0): valid slices -/
def exNeedle : Slice := Slice.ofMem ⟨1, 4096, "abaab".toUTF8.data⟩
def exHay : Slice := Slice.ofMem ⟨0, 8192, "abaaabaabab".toUTF8.data⟩

theorem exNeedle_valid : exNeedle.Valid := Slice.ofMem_valid _
theorem exHay_valid : exHay.Valid := Slice.ofMem_valid _

/-- `Cost.searcher_find`: a searcher exists for every configuration (here: the hypotheses
`Searcher.new .. = .ok s c0'`, valid slices and equal bytes, for the example needle) -/
example (cfg : Api.Cfg) : ∃ s c0', Searcher.new cfg .auto Pair.defaultRank exNeedle {} = .ok s c0' ∧
    exNeedle.Valid ∧ exHay.Valid ∧ exNeedle.toList = exNeedle.toList := by
  obtain ⟨s, c', e, _⟩ := Searcher.new_run cfg .auto Pair.defaultRank exNeedle exNeedle_valid {}
  exact ⟨s, c', e, exNeedle_valid, exHay_valid, rfl⟩

/-- `Props.C13.searcher_rfind_cost` -/
example : ∃ s c0', SearcherRev.new exNeedle {} = .ok s c0' := by
  obtain ⟨s, c', e, _⟩ := SearcherRev.new_run exNeedle exNeedle_valid {}
  exact ⟨s, c', e⟩

/-- `Props.C13.twoway_pre_cost`: a finder exists, and both kinds of prefilter hypotheses are
satisfiable: no prefilter, and any strategy built by `Searcher::new` (`Prefilter.GoodFor`), which
is sound and has the required cost (`Prefilter.find_stratCost`) -/
example : ∃ tw c0', TwoWay.Finder.new exNeedle {} = .ok tw c0' := by
  obtain ⟨tw, c', e, _⟩ := TwoWay.finder_new_spec exNeedle {} exNeedle_valid
  exact ⟨tw, c', e⟩

example (cfg : Api.Cfg) {p : Prefilter} (hg : p.GoodFor exNeedle) :
    TwoWay.StratCost (p.find cfg) :=
  Prefilter.find_stratCost cfg exNeedle_valid hg

example : TwoWay.StratCost (fun _ => pure none) := TwoWay.stratCost_none

/-- `Cost.find_iter_total` / `Cost.rfind_iter_total`: `k = 0` always satisfies the bound on `k`;
so does every `k` up to the number of matches plus one -/
example (hay needle : Slice) : 0 ≤ (Spec.greedyFwd hay.toArray needle.toArray).length + 1 :=
  Nat.zero_le _

end Examples

end Memchr.Cost

#print axioms Memchr.Cost.prefilter
#print axioms Memchr.Cost.searcher_find
#print axioms Memchr.Cost.find_iter_total
#print axioms Memchr.Cost.rfind_iter_total

/-! ### the headline of C13: one budget for every entry point -/

namespace Memchr.Bridge4

open Memchr.Memmem

/-- `scanned` of a leftmost occurrence is at most `len + 1` (`+ 1`: the empty needle in the empty
haystack is found at offset 0 = `len`) -/
theorem scanned_leftmost_le (hay needle : Slice) (hh : hay.Valid) :
    Fallback.scanned (Spec.leftmost hay.toArray needle.toArray) hay.len ≤ hay.len + 1 :=
  Fallback.scanned_le (Nat.le_succ _) fun i h =>
    Nat.lt_succ_of_le (Slice.toArray_size hh ▸ ((Spec.leftmost_eq_some_iff _ _ i).mp h).1.le_size)

/-- the four shapes of the bounds for building a finder and searching (`Cost.builder_find`,
`Cost.finderRev_rfind` and the one-shot forms, `Cost.find_iter_total`, `Cost.rfind_iter_total`) are
within the headline budget `B` (`s`: bytes scanned, `k`: calls of `next()`) -/
theorem budget_covers {L N m B : Nat} (hB : B = 2079 * (L + N) + 5305 * (m + 1)) (c : Nat) :
    (∀ s, s ≤ L + 1 → c + 1031 * s + 24 * N + 2257 ≤ c + B) ∧
    (∀ s, s ≤ L → c + 3 * s + 24 * N + 194 ≤ c + B) ∧
    (∀ k, k ≤ m + 1 → c + 2079 * L + 24 * N + 2000 * k + 3305 ≤ c + B) ∧
    (∀ k, k ≤ L + 1 + 1 → c + 23 * L + 24 * N + 192 * k + 194 ≤ c + B) := by
  subst hB
  exact ⟨fun s hs => by omega, fun s hs => by omega, fun k hk => by omega, fun k hk => by omega⟩

/-- **The headline of C13**, see `Props/C13.lean` (`linear_work`) for the reading. -/
theorem linear_work :
    ∃ A B : Nat, A = 2079 ∧ B = 5305 ∧
      ∀ (cfg : Api.Cfg) (b : FinderBuilder) (rank : UInt8 → UInt8) (needle hay : Slice),
        needle.Valid → hay.Valid →
      ∀ (matchCount budget : Nat),
        matchCount = (Spec.greedyFwd hay.toArray needle.toArray).length →
        budget = A * (hay.len + needle.len) + B * (matchCount + 1) →
      ∀ (h : Heap) (c : Ctr),
        (∃ c', (b.buildForwardWithRanker cfg rank needle >>= fun f => f.find cfg hay) c =
            .ok (Spec.leftmost hay.toArray needle.toArray) c' ∧
          c'.steps ≤ c.steps + budget) ∧
        (∃ c', (FinderRev.new needle >>= fun f => f.rfind cfg hay) c =
            .ok (Spec.rightmost hay.toArray needle.toArray) c' ∧
          c'.steps ≤ c.steps + budget) ∧
        (∃ c', Memmem.find cfg hay needle c =
            .ok (Spec.leftmost hay.toArray needle.toArray) c' ∧
          c'.steps ≤ c.steps + budget) ∧
        (∃ c', Memmem.rfind cfg hay needle c =
            .ok (Spec.rightmost hay.toArray needle.toArray) c' ∧
          c'.steps ≤ c.steps + budget) ∧
        (∀ k, k ≤ matchCount + 1 →
          ∃ it' h' c', (b.buildForwardWithRanker cfg rank needle >>= fun f =>
              FindIter.run cfg (List.replicate k .next) (f.findIter hay) h) c =
              .ok ((List.range k).map
                (fun i => Out.idx ((Spec.greedyFwd hay.toArray needle.toArray)[i]?)), it', h') c' ∧
            c'.steps ≤ c.steps + budget) ∧
        (∀ k, k ≤ (Spec.greedyRev hay.toArray needle.toArray).length + 1 →
          ∃ it' h' c', (FinderRev.new needle >>= fun f =>
              FindRevIter.run cfg (List.replicate k .next) (f.rfindIter hay) h) c =
              .ok ((List.range k).map
                (fun i => Out.idx ((Spec.greedyRev hay.toArray needle.toArray)[i]?)), it', h') c' ∧
            c'.steps ≤ c.steps + budget) := by
  refine ⟨2079, 5305, rfl, rfl, ?_⟩
  intro cfg b rank needle hay hn hh m budget hm hbud h c
  have hsc := scanned_leftmost_le hay needle hh
  have hsr := Api.scannedRev_le (Spec.rightmost hay.toArray needle.toArray) hay.len
  obtain ⟨b1, b2, b3, b4⟩ := budget_covers hbud c.steps
  refine ⟨?_, ?_, ?_, ?_, ?_, ?_⟩
  · obtain ⟨c', e, hk⟩ := Cost.builder_find cfg b rank needle hay hn hh c
    exact ⟨c', e, Nat.le_trans hk (b1 _ hsc)⟩
  · obtain ⟨c', e, hk⟩ := Cost.finderRev_rfind cfg needle hay hn hh c
    exact ⟨c', e, Nat.le_trans hk (b2 _ hsr)⟩
  · obtain ⟨c', e, hk⟩ := Cost.oneshot_find cfg needle hay hn hh c
    exact ⟨c', e, Nat.le_trans hk (b1 _ hsc)⟩
  · obtain ⟨c', e, hk⟩ := Cost.oneshot_rfind cfg needle hay hn hh c
    exact ⟨c', e, Nat.le_trans hk (b2 _ hsr)⟩
  · intro k hk
    obtain ⟨it', h', c', e, hs⟩ := Cost.find_iter_total cfg b rank needle hay hn hh k
      (hm ▸ hk) h c
    exact ⟨it', h', c', e, Nat.le_trans hs (b3 k hk)⟩
  · intro k hk
    have hlen := Spec.greedyRev_length_le hay.toArray needle.toArray
    rw [Slice.toArray_size hh] at hlen
    obtain ⟨it', h', c', e, hs⟩ := Cost.rfind_iter_total cfg needle hay hn hh k hk h c
    exact ⟨it', h', c', e, Nat.le_trans hs (b4 k (Nat.le_trans hk (Nat.succ_le_succ hlen)))⟩

end Memchr.Bridge4
