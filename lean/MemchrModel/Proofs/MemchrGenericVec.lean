/-
Vector / mask layer for the generic `memchr` proofs.

Every boolean vector that the algorithms build from a chunk loaded at address `a` is, as a
list of lanes, equal to the canonical vector `bvec n f` for a lane predicate `f`; every mask
built from such vectors represents the same predicate through `L.bit` (`MaskRep`).
-/
import MemchrModel.Model.MemchrGeneric

namespace Memchr

theorem Vec.cmpeq_comm (a b : Vec) : Vec.cmpeq a b = Vec.cmpeq b a := by
  unfold Vec.cmpeq
  rw [List.zipWith_comm]
  congr 1
  funext x y
  rw [BEq.comm]

namespace Generic

/-- canonical boolean vector with lane predicate `f` -/
def bvec (n : Nat) (f : Nat → Bool) : Vec :=
  (List.range n).map (fun i => if f i then 0xFF else 0x00)

@[simp] theorem bvec_length (n : Nat) (f : Nat → Bool) : (bvec n f).length = n := by
  simp [bvec]

theorem bvec_isBool (n : Nat) (f : Nat → Bool) : Vec.IsBool (bvec n f) := by
  intro x hx
  simp only [bvec, List.mem_map, List.mem_range] at hx
  obtain ⟨i, _, rfl⟩ := hx
  cases f i <;> simp

theorem bvec_lane (n : Nat) (f : Nat → Bool) (i : Nat) (h : i < n) :
    Vec.lane (bvec n f) i = f i := by
  simp only [Vec.lane, bvec, List.getElem?_map, List.getElem?_range h, Option.map_some]
  cases f i <;> decide

theorem bvec_congr (n : Nat) (f g : Nat → Bool) (h : ∀ i, i < n → f i = g i) :
    bvec n f = bvec n g := by
  unfold bvec
  apply List.map_congr_left
  intro i hi
  rw [h i (List.mem_range.mp hi)]

theorem splat_eq_map (n : Nat) (b : UInt8) : Vec.splat n b = (List.range n).map (fun _ => b) := by
  simp [Vec.splat, List.map_const']

theorem cmpeq_window_splat (m : Mem) (a n : Nat) (b : UInt8) :
    Vec.cmpeq (m.window a n) (Vec.splat n b) = bvec n (fun i => m.byteAt (a + i) == b) := by
  rw [splat_eq_map]
  unfold Vec.cmpeq Mem.window bvec
  rw [List.zipWith_map, List.zipWith_self]

theorem cmpeq_splat_window (m : Mem) (a n : Nat) (b : UInt8) :
    Vec.cmpeq (Vec.splat n b) (m.window a n) = bvec n (fun i => m.byteAt (a + i) == b) := by
  rw [Vec.cmpeq_comm, cmpeq_window_splat]

theorem or_bvec (n : Nat) (f g : Nat → Bool) :
    Vec.or (bvec n f) (bvec n g) = bvec n (fun i => f i || g i) := by
  unfold Vec.or bvec
  rw [List.zipWith_map, List.zipWith_self]
  apply List.map_congr_left
  intro i _
  cases hf : f i <;> cases hg : g i <;> simp [hf, hg]

theorem and_bvec (n : Nat) (f g : Nat → Bool) :
    Vec.and (bvec n f) (bvec n g) = bvec n (fun i => f i && g i) := by
  unfold Vec.and bvec
  rw [List.zipWith_map, List.zipWith_self]
  apply List.map_congr_left
  intro i _
  cases hf : f i <;> cases hg : g i <;> simp [hf, hg]

theorem splat_zero_eq (n : Nat) : Vec.splat n 0 = bvec n (fun _ => false) := by
  rw [splat_eq_map]; simp [bvec]

/-- lane `i` of the chunk at `a` holds a byte satisfying `p` (a needle byte, for `p = ns.confirm`) -/
def hitF (m : Mem) (p : UInt8 → Bool) (a : Nat) : Nat → Bool := fun i => p (m.byteAt (a + i))

variable (V : VecImpl)

theorem foldl_or_bvec (n : Nat) (fs : List (Nat → Bool)) (g : Nat → Bool) :
    (fs.map (bvec n)).foldl Vec.or (bvec n g) = bvec n (fun i => g i || fs.any (fun f => f i)) := by
  induction fs generalizing g with
  | nil => simp
  | cons f fs ih => simp only [List.map_cons, List.foldl_cons, or_bvec, ih, List.any_cons,
      Bool.or_assoc]

theorem chunkEqs_window (ns : Needles) (m : Mem) (a : Nat) :
    chunkEqs V ns (m.window a V.bytes) =
      (bvec V.bytes (fun i => m.byteAt (a + i) == ns.first),
        (ns.rest.map (fun n i => m.byteAt (a + i) == n)).map (bvec V.bytes)) := by
  simp only [chunkEqs, cmpeq_splat_window, List.map_map]
  rfl

theorem hitF_eq (ns : Needles) (m : Mem) (a i : Nat) :
    hitF m ns.confirm a i = (m.byteAt (a + i) == ns.first ||
      (ns.rest.map (fun n i => m.byteAt (a + i) == n)).any (fun f => f i)) := by
  simp only [hitF, Needles.confirm, Needles.toList, List.contains_eq_any_beq, List.any_cons,
    List.any_map, Function.comp_def]

theorem chunkOr_eq (ns : Needles) (m : Mem) (a : Nat) :
    chunkOr (chunkEqs V ns (m.window a V.bytes)) = bvec V.bytes (hitF m ns.confirm a) := by
  rw [chunkOr, chunkEqs_window, foldl_or_bvec]
  exact bvec_congr _ _ _ (fun i _ => (hitF_eq ns m a i).symm)

variable {V}

/-- mask `mk` is well formed and its lanes below `V.bytes` are `f` -/
def MaskRep (L : Lawful V) (mk : V.Mask) (f : Nat → Bool) : Prop :=
  L.wf mk ∧ ∀ i, i < V.bytes → L.bit mk i = f i

theorem MaskRep.movemask (L : Lawful V) (f : Nat → Bool) :
    MaskRep L (V.movemask (bvec V.bytes f)) f := by
  refine ⟨L.movemask_wf _ (bvec_length _ _) (bvec_isBool _ _), ?_⟩
  intro i hi
  rw [L.movemask_bit _ i (bvec_length _ _) (bvec_isBool _ _) hi, bvec_lane _ _ _ hi]

theorem MaskRep.mor {L : Lawful V} {a b : V.Mask} {f g : Nat → Bool}
    (ha : MaskRep L a f) (hb : MaskRep L b g) : MaskRep L (V.mor a b) (fun i => f i || g i) := by
  refine ⟨L.mor_wf _ _ ha.1 hb.1, ?_⟩
  intro i hi
  rw [L.mor_bit _ _ _ ha.1 hb.1, ha.2 i hi, hb.2 i hi]

theorem MaskRep.congr {L : Lawful V} {a : V.Mask} {f g : Nat → Bool}
    (ha : MaskRep L a f) (h : ∀ i, i < V.bytes → f i = g i) : MaskRep L a g :=
  ⟨ha.1, fun i hi => by rw [ha.2 i hi, h i hi]⟩

theorem MaskRep.hasNonZero_iff {L : Lawful V} {a : V.Mask} {f : Nat → Bool}
    (ha : MaskRep L a f) : V.hasNonZero a = true ↔ ∃ i, i < V.bytes ∧ f i = true := by
  rw [L.hasNonZero_iff _ ha.1]
  constructor
  · rintro ⟨i, hi⟩
    have hlt := L.bit_lt _ _ ha.1 hi
    exact ⟨i, hlt, by rw [← ha.2 i hlt]; exact hi⟩
  · rintro ⟨i, hlt, hi⟩
    exact ⟨i, by rw [ha.2 i hlt]; exact hi⟩

theorem MaskRep.firstOffset {L : Lawful V} {a : V.Mask} {f : Nat → Bool}
    (ha : MaskRep L a f) (hex : ∃ i, i < V.bytes ∧ f i = true) (c : Ctr) :
    ∃ k, V.firstOffset a c = .ok k c ∧ k < V.bytes ∧ f k = true ∧ ∀ j, j < k → f j = false := by
  obtain ⟨i, hlt, hi⟩ := hex
  obtain ⟨k, hrun, hk, hmin⟩ := L.firstOffset_spec a c ha.1 ⟨i, by rw [ha.2 i hlt]; exact hi⟩
  have hklt := L.bit_lt _ _ ha.1 hk
  refine ⟨k, hrun, hklt, by rw [← ha.2 k hklt]; exact hk, ?_⟩
  intro j hj
  rw [← ha.2 j (Nat.lt_trans hj hklt)]
  exact hmin j hj

theorem MaskRep.lastOffset {L : Lawful V} {a : V.Mask} {f : Nat → Bool}
    (ha : MaskRep L a f) (hex : ∃ i, i < V.bytes ∧ f i = true) (c : Ctr) :
    ∃ k, V.lastOffset a c = .ok k c ∧ k < V.bytes ∧ f k = true ∧
      ∀ j, k < j → j < V.bytes → f j = false := by
  obtain ⟨i, hlt, hi⟩ := hex
  obtain ⟨k, hrun, hk, hmax⟩ := L.lastOffset_spec a c ha.1 ⟨i, by rw [ha.2 i hlt]; exact hi⟩
  have hklt := L.bit_lt _ _ ha.1 hk
  refine ⟨k, hrun, hklt, by rw [← ha.2 k hklt]; exact hk, ?_⟩
  intro j hj hjlt
  rw [← ha.2 j hjlt]
  exact hmax j hj

theorem MaskRep.countOnes {L : Lawful V} {a : V.Mask} {f : Nat → Bool}
    (ha : MaskRep L a f) : V.countOnes a = ((List.range V.bytes).filter f).length := by
  rw [L.countOnes_eq _ ha.1]
  congr 1
  apply List.filter_congr
  intro i hi
  exact ha.2 i (List.mem_range.mp hi)

theorem foldl_mor_rep (L : Lawful V) (fs : List (Nat → Bool)) {mk : V.Mask} {g : Nat → Bool}
    (hmk : MaskRep L mk g) :
    MaskRep L (((fs.map (bvec V.bytes)).map V.movemask).foldl V.mor mk)
      (fun i => g i || fs.any (fun f => f i)) := by
  induction fs generalizing mk g with
  | nil => simpa using hmk
  | cons f fs ih =>
    simp only [List.map_cons, List.foldl_cons, List.any_cons, ← Bool.or_assoc]
    exact ih (hmk.mor (MaskRep.movemask L f))

theorem chunkMask_rep (L : Lawful V) (ns : Needles) (m : Mem) (a : Nat) :
    MaskRep L (chunkMask V (chunkEqs V ns (m.window a V.bytes))) (hitF m ns.confirm a) := by
  rw [chunkMask, chunkEqs_window]
  exact (foldl_mor_rep L _ (MaskRep.movemask L _)).congr (fun i _ => (hitF_eq ns m a i).symm)

end Memchr.Generic
