/-
Nat-level facts behind `NeonMoveMask(u64)`: the nibble layout (lane `i` = bit `4i + 3`),
the little-endian reassembly `leNat`, the "shift right narrow by 4" on boolean lanes, the
pairwise max. Reuses the `tz`/`bitLen`/`popcount` lemmas and the two bit tricks of
`Proofs/SensibleBits.lean`.
-/
import MemchrModel.Model.Neon
import MemchrModel.Proofs.SensibleBits

namespace Memchr.Neon

open Bits

/-- every set bit of `n` is the top bit of a nibble -/
def NibWf (n : Nat) : Prop := ∀ j, n.testBit j = true → j % 4 = 3

theorem nibWf_and_left {a : Nat} (b : Nat) (ha : NibWf a) : NibWf (a &&& b) := by
  intro j hj
  rw [Nat.testBit_and] at hj
  exact ha j (Bool.and_eq_true_iff.mp hj).1

theorem nibWf_and_right (a : Nat) {b : Nat} (hb : NibWf b) : NibWf (a &&& b) := by
  intro j hj
  rw [Nat.testBit_and] at hj
  exact hb j (Bool.and_eq_true_iff.mp hj).2

theorem nibWf_or {a b : Nat} (ha : NibWf a) (hb : NibWf b) : NibWf (a ||| b) := by
  intro j hj
  rw [Nat.testBit_or] at hj
  rcases Bool.or_eq_true _ _ ▸ hj with h | h
  · exact ha j h
  · exact hb j h

theorem maskConst_toNat : maskConst.toNat = 0x8888888888888888 := by decide

theorem maskNat_testBit (j : Nat) :
    (0x8888888888888888 : Nat).testBit j = (decide (j < 64) && decide (j % 4 = 3)) := by
  by_cases h : j < 64
  · have key : ∀ j : Fin 64, (0x8888888888888888 : Nat).testBit j = decide (j.val % 4 = 3) := by
      decide
    have := key ⟨j, h⟩
    simp only [h, decide_true, Bool.true_and]
    exact this
  · have : (0x8888888888888888 : Nat).testBit j = false :=
      Bool.eq_false_iff.mpr fun hj => h (lt_of_testBit (w := 64) (by decide) hj)
    simp [this, h]

theorem nibWf_maskNat : NibWf 0x8888888888888888 := by
  intro j hj
  rw [maskNat_testBit] at hj
  exact of_decide_eq_true (Bool.and_eq_true_iff.mp hj).2

theorem leNat_cons (x : UInt8) (xs : List UInt8) : leNat (x :: xs) = 2 ^ 8 * leNat xs + x.toNat :=
  Nat.add_comm _ _

theorem leNat_cons_testBit_lt (x : UInt8) (xs : List UInt8) {k : Nat} (hk : k < 8) :
    (leNat (x :: xs)).testBit k = x.toNat.testBit k := by
  rw [leNat_cons, Nat.testBit_two_pow_mul_add _ x.toNat_lt, if_pos hk]

theorem leNat_cons_testBit_add (x : UInt8) (xs : List UInt8) (k : Nat) :
    (leNat (x :: xs)).testBit (k + 8) = (leNat xs).testBit k := by
  rw [leNat_cons, Nat.testBit_two_pow_mul_add _ x.toNat_lt,
    if_neg (Nat.not_lt.mpr (Nat.le_add_left 8 k)), Nat.add_sub_cancel]

theorem leNat_lt (xs : List UInt8) : leNat xs < 2 ^ (8 * xs.length) := by
  induction xs with
  | nil => simp [leNat]
  | cons x xs ih =>
    have hx : x.toNat < 256 := x.toNat_lt
    have e : 8 * (xs.length + 1) = 8 * xs.length + 8 := by omega
    simp only [leNat, List.length_cons, e, Nat.pow_add]
    omega

theorem leNat_eq_zero (xs : List UInt8) : leNat xs = 0 ↔ ∀ x ∈ xs, x = 0 := by
  induction xs with
  | nil => simp [leNat]
  | cons x xs ih =>
    rw [leNat, Nat.add_eq_zero_iff, Nat.mul_eq_zero, List.forall_mem_cons, ih, ← UInt8.toNat_inj]
    exact and_congr_right' (or_iff_right (by decide))

theorem narrow_bits (a b : UInt8) (ha : a = 0x00 ∨ a = 0xFF) (hb : b = 0x00 ∨ b = 0xFF) :
    (((a.toUInt16 + 256 * b.toUInt16) >>> 4).toUInt8).toNat.testBit 3 = (a == 0xFF) ∧
    (((a.toUInt16 + 256 * b.toUInt16) >>> 4).toUInt8).toNat.testBit 7 = (b == 0xFF) := by
  rcases ha with rfl | rfl <;> rcases hb with rfl | rfl <;> decide

theorem shrn4_asU16s_cons (a b : UInt8) (rest : List UInt8) :
    shrn4 (asU16s (a :: b :: rest)) =
      ((a.toUInt16 + 256 * b.toUInt16) >>> 4).toUInt8 :: shrn4 (asU16s rest) := by
  simp [asU16s, shrn4]

/-- On a boolean vector of even length, bit `4i + 3` of the narrowed value is lane `i`: lanes
`2j` and `2j + 1` are bits 3 and 7 of byte `j`. -/
theorem narrowed_testBit : ∀ (v : List UInt8), (∀ x ∈ v, x = 0x00 ∨ x = 0xFF) →
    v.length % 2 = 0 → ∀ i : Nat,
    (leNat (shrn4 (asU16s v))).testBit (4 * i + 3) = (v[i]? == some 0xFF)
  | [], _, _, i => by simp [asU16s, shrn4, leNat]
  | [a], _, hl, _ => by simp at hl
  | a :: b :: rest, hb, hl, i => by
    have hab := narrow_bits a b (hb a (List.mem_cons_self ..))
      (hb b (List.mem_cons_of_mem _ (List.mem_cons_self ..)))
    rw [shrn4_asU16s_cons]
    match i with
    | 0 => exact (leNat_cons_testBit_lt _ _ (by decide)).trans hab.1
    | 1 => exact (leNat_cons_testBit_lt _ _ (by decide)).trans hab.2
    | i + 2 =>
      exact (leNat_cons_testBit_add _ _ (4 * i + 3)).trans
        (narrowed_testBit rest
          (fun x hx => hb x (List.mem_cons_of_mem _ (List.mem_cons_of_mem _ hx)))
          ((Nat.add_mod_right _ 2).symm.trans hl) i)

theorem umax_eq_zero (a b : UInt8) : (if a ≤ b then b else a) = 0 ↔ a = 0 ∧ b = 0 := by
  simp only [← UInt8.toNat_inj, UInt8.le_iff_toNat_le, apply_ite UInt8.toNat, UInt8.toNat_zero]
  split <;> omega

theorem pairMax_length : ∀ v : List UInt8, (pairMax v).length = v.length / 2
  | [] => by simp [pairMax]
  | [a] => by simp [pairMax]
  | a :: b :: rest => by
    rw [pairMax, List.length_cons, pairMax_length rest]
    exact (Nat.add_div_right _ (Nat.succ_pos 1)).symm

theorem pairMax_all_zero : ∀ v : List UInt8, v.length % 2 = 0 →
    ((∀ x ∈ pairMax v, x = 0) ↔ ∀ x ∈ v, x = 0)
  | [], _ => by simp [pairMax]
  | [a], hl => by simp at hl
  | a :: b :: rest, hl => by
    have hl' : rest.length % 2 = 0 := (Nat.add_mod_right _ 2).symm.trans hl
    simp only [pairMax, List.mem_cons, forall_eq_or_imp, umax_eq_zero,
      pairMax_all_zero rest hl', and_assoc]

/-! ### one bit per nibble: `popcount`, `n & (n - 1)`, `tz`, `bitLen` read in lanes -/

theorem filter_range_nib (p : Nat → Bool) (hp : ∀ j, p j = true → j % 4 = 3) (k : Nat) :
    ((List.range (4 * k)).filter p).length =
      ((List.range k).filter (fun i => p (4 * i + 3))).length := by
  have hp' : ∀ j c, c < 3 → p (4 * j + c) = false := by
    intro j c hc
    cases h : p (4 * j + c) with
    | false => rfl
    | true =>
      have := hp _ h
      rw [Nat.mul_add_mod, Nat.mod_eq_of_lt (Nat.lt_trans hc (by decide))] at this
      exact absurd this (Nat.ne_of_lt hc)
  induction k with
  | zero => rfl
  | succ k ih =>
    have h0 : p (4 * k) = false := hp' k 0 (by decide)
    show ((List.range (4 * k + 1 + 1 + 1 + 1)).filter p).length = _
    simp only [List.range_succ, List.filter_append, List.length_append, List.filter_cons,
      List.filter_nil, h0, hp' k 1 (by decide), hp' k 2 (by decide), ih]
    cases p (4 * k + 3) <;> simp

theorem popcount_nib (n : Nat) (hn : n < 2 ^ 64) (hw : NibWf n) :
    popcount n = ((List.range 16).filter (fun i => n.testBit (4 * i + 3))).length := by
  rw [popcount_eq 64 n hn]
  exact filter_range_nib (fun i => n.testBit i) hw 16

theorem nib_pos {n t : Nat} (hw : NibWf n) (ht : n.testBit t = true) : 4 * (t >>> 2) + 3 = t := by
  have := Nat.div_add_mod t 4
  rw [hw t ht] at this
  rw [Nat.shiftRight_eq_div_pow]
  exact this

/-- `n &&& (n - 1)` in lanes: no lower lane set means no lower bit set -/
theorem and_pred_nib {n k : Nat} (hw : NibWf n) (hk : n.testBit (4 * k + 3) = true)
    (hl : ∀ j, j < k → n.testBit (4 * j + 3) = false) (i : Nat) :
    (n &&& (n - 1)).testBit (4 * i + 3) = (n.testBit (4 * i + 3) && i != k) := by
  have hlow : ∀ j, j < 4 * k + 3 → n.testBit j = false := by
    intro j hj
    cases h : n.testBit j with
    | false => rfl
    | true =>
      have e := nib_pos hw h
      generalize j >>> 2 = q at e
      subst e
      exact h.symm.trans (hl q (by omega))
  rw [and_pred_testBit (4 * k + 3) n hk hlow (4 * i + 3)]
  by_cases hik : i = k
  · subst hik; simp
  · have hne : 4 * i + 3 ≠ 4 * k + 3 := fun h =>
      hik (Nat.eq_of_mul_eq_mul_left (by decide) (Nat.add_right_cancel h))
    rw [bne_iff_ne.mpr hne, bne_iff_ne.mpr hik]

theorem tz_nib (n : Nat) (hn : n < 2 ^ 64) (hw : NibWf n)
    (hex : ∃ i, n.testBit (4 * i + 3) = true) :
    n.testBit (4 * (tz 64 n >>> 2) + 3) = true ∧
      ∀ j, j < tz 64 n >>> 2 → n.testBit (4 * j + 3) = false := by
  obtain ⟨i, hi⟩ := hex
  obtain ⟨h1, h2⟩ := tz_spec 64 n ⟨4 * i + 3, lt_of_testBit hn hi, hi⟩
  have e := nib_pos hw h1
  generalize tz 64 n >>> 2 = k at e
  exact ⟨e ▸ h1, fun j hj => h2 _ (by omega)⟩

theorem bitLen_nib (n : Nat) (hn : n < 2 ^ 64) (hw : NibWf n) (hne : n ≠ 0) :
    ∃ k, k < 16 ∧ bitLen n = 4 * k + 4 ∧ n.testBit (4 * k + 3) = true ∧
      ∀ j, k < j → n.testBit (4 * j + 3) = false := by
  obtain ⟨t, ht, hbit, hhi⟩ := bitLen_spec hne
  have e := nib_pos hw hbit
  have hle := bitLen_le_of_lt 64 n hn
  generalize t >>> 2 = k at e
  subst e
  exact ⟨k, by omega, ht, hbit, fun j hj => hhi _ (by omega)⟩

end Memchr.Neon
