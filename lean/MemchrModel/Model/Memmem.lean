/-
Model of the public substring API `src/memmem/mod.rs` and of `src/cow.rs`:
`CowBytes`, `Finder`, `FinderRev`, `FinderBuilder`, `FindIter`, `FindRevIter`, the one-shot
`memmem::find` / `memmem::rfind`, `find_iter` / `rfind_iter`.

Ownership and allocation (C17).  `CowBytes` is `Borrowed(&[u8]) | Owned(Box<[u8]>)`; the
model keeps the flag and the slice `as_slice()` returns.  The only places of `mod.rs` /
`cow.rs` / `searcher.rs` that can reach the global allocator are `Box::<[u8]>::from(b)` in
`CowBytes::into_owned` (borrowed case) and `Box<[u8]>::clone` in the derived
`Clone for CowBytes` (owned case).  Both go through `Heap.boxFrom`, which copies the bytes into
a fresh region and counts the allocation.  Everything else (`Searcher`, `SearcherRev`,
`PrefilterState`, the iterators) is plain data that `clone()` copies in place.  Functions that
can allocate take and return the `Heap`; they have no `tick` hook and cannot fault.

`mod.rs` has no `tick` / `note_load` hook of its own.
-/
import MemchrModel.Model.Searcher

set_option linter.unusedVariables false

namespace Memchr.Memmem

open Memchr

/-! ### the heap (allocation counter) -/

/-- Global allocator state: number of allocator calls so far, bytes requested so far, address
handed out next. -/
structure Heap where
  allocs : Nat := 0
  bytes : Nat := 0
  next : Nat := 16777216
  deriving Repr, DecidableEq, Inhabited

namespace Heap

/-- `Box::<[u8]>::from(b)` / `Box<[u8]>::clone`: copy `b` into a fresh heap region (same region
id, so that load traces keep saying "needle").  A zero-length boxed slice does not call the
allocator (`RawVec` of capacity 0 is dangling); every other length is exactly one call. -/
def boxFrom (h : Heap) (b : Slice) : Slice × Heap :=
  let m : Mem := { region := b.mem.region, base := h.next, bytes := b.toArray }
  let s : Slice := ⟨m, 0, b.len⟩
  if b.len = 0 then (s, h)
  else (s, { allocs := h.allocs + 1, bytes := h.bytes + b.len, next := h.next + b.len })

end Heap

/-! ### `CowBytes` -/

inductive Ownership where
  | borrowed
  | owned
  deriving Repr, DecidableEq, Inhabited

/-- `CowBytes<'a>(Imp<'a>)` with `Imp::Borrowed(&'a [u8]) | Imp::Owned(Box<[u8]>)` -/
structure CowBytes where
  own : Ownership
  bytes : Slice
  deriving Repr, Inhabited

namespace CowBytes

/-- `CowBytes::new(bytes)` -/
@[inline] def new (bytes : Slice) : CowBytes := { own := .borrowed, bytes := bytes }

/-- `CowBytes::as_slice(&self)` -/
@[inline] def asSlice (c : CowBytes) : Slice := c.bytes

/-- `CowBytes::into_owned(self)` -/
def intoOwned (c : CowBytes) (h : Heap) : CowBytes × Heap :=
  match c.own with
  | .borrowed =>
    let (b, h') := h.boxFrom c.bytes
    ({ own := .owned, bytes := b }, h')
  | .owned => ({ own := .owned, bytes := c.bytes }, h)

/-- `#[derive(Clone)]`: `Borrowed(b)` copies the reference, `Owned(b)` clones the box -/
def clone (c : CowBytes) (h : Heap) : CowBytes × Heap :=
  match c.own with
  | .borrowed => (c, h)
  | .owned =>
    let (b, h') := h.boxFrom c.bytes
    ({ own := .owned, bytes := b }, h')

end CowBytes

/-! ### `Finder`, `FinderRev`, `FinderBuilder` -/

/-- `struct Finder<'n> { needle: CowBytes<'n>, searcher: Searcher }` -/
structure Finder where
  needle : CowBytes
  searcher : Searcher
  deriving Repr, Inhabited

/-- `struct FinderRev<'n> { needle: CowBytes<'n>, searcher: SearcherRev }` -/
structure FinderRev where
  needle : CowBytes
  searcher : SearcherRev
  deriving Repr, Inhabited

/-- `struct FinderBuilder { prefilter: Prefilter }` -/
structure FinderBuilder where
  prefilter : PrefilterConfig
  deriving Repr, Inhabited

namespace FinderBuilder

/-- `FinderBuilder::new()` = `FinderBuilder::default()` -/
def new : FinderBuilder := { prefilter := PrefilterConfig.default }

/-- `FinderBuilder::prefilter(&mut self, prefilter)` -/
def setPrefilter (b : FinderBuilder) (prefilter : PrefilterConfig) : FinderBuilder :=
  { b with prefilter := prefilter }

/-- `build_forward_with_ranker(ranker, needle)` -/
def buildForwardWithRanker (cfg : Api.Cfg) (b : FinderBuilder) (rank : UInt8 → UInt8)
    (needle : Slice) : M Finder := do
  let searcher ← Searcher.new cfg b.prefilter rank needle
  pure { needle := CowBytes.new needle, searcher := searcher }

/-- `build_forward(needle)` = `build_forward_with_ranker(DefaultFrequencyRank, needle)` -/
def buildForward (cfg : Api.Cfg) (b : FinderBuilder) (needle : Slice) : M Finder :=
  b.buildForwardWithRanker cfg Pair.defaultRank needle

/-- `build_reverse(needle)` -/
def buildReverse (b : FinderBuilder) (needle : Slice) : M FinderRev := do
  let searcher ← SearcherRev.new needle
  pure { needle := CowBytes.new needle, searcher := searcher }

end FinderBuilder

namespace Finder

/-- `Finder::new(needle)` -/
def new (cfg : Api.Cfg) (needle : Slice) : M Finder := FinderBuilder.new.buildForward cfg needle

/-- `Finder::needle(&self)` -/
@[inline] def needleSlice (f : Finder) : Slice := f.needle.asSlice

/-- `Finder::find(&self, haystack)`: a fresh `PrefilterState::new()` per call -/
def find (cfg : Api.Cfg) (f : Finder) (haystack : Slice) : M (Option Nat) := do
  let prestate := PrefilterState.new
  let needle := f.needle.asSlice
  let (r, _) ← f.searcher.find cfg prestate haystack needle
  pure r

/-- `Finder::as_ref(&self)` -/
def asRef (f : Finder) : Finder :=
  { needle := CowBytes.new f.needleSlice, searcher := f.searcher }

/-- `Finder::into_owned(self)` -/
def intoOwned (f : Finder) (h : Heap) : Finder × Heap :=
  let (n, h') := f.needle.intoOwned h
  ({ needle := n, searcher := f.searcher }, h')

/-- `#[derive(Clone)]` -/
def clone (f : Finder) (h : Heap) : Finder × Heap :=
  let (n, h') := f.needle.clone h
  ({ needle := n, searcher := f.searcher }, h')

end Finder

namespace FinderRev

/-- `FinderRev::new(needle)` -/
def new (needle : Slice) : M FinderRev := FinderBuilder.new.buildReverse needle

/-- `FinderRev::needle(&self)` -/
@[inline] def needleSlice (f : FinderRev) : Slice := f.needle.asSlice

/-- `FinderRev::rfind(&self, haystack)` -/
def rfind (cfg : Api.Cfg) (f : FinderRev) (haystack : Slice) : M (Option Nat) :=
  f.searcher.rfind cfg haystack f.needle.asSlice

/-- `FinderRev::as_ref(&self)` -/
def asRef (f : FinderRev) : FinderRev :=
  { needle := CowBytes.new f.needleSlice, searcher := f.searcher }

/-- `FinderRev::into_owned(self)` -/
def intoOwned (f : FinderRev) (h : Heap) : FinderRev × Heap :=
  let (n, h') := f.needle.intoOwned h
  ({ needle := n, searcher := f.searcher }, h')

/-- `#[derive(Clone)]` -/
def clone (f : FinderRev) (h : Heap) : FinderRev × Heap :=
  let (n, h') := f.needle.clone h
  ({ needle := n, searcher := f.searcher }, h')

end FinderRev

/-! ### `FindIter` -/

/-- `usize::MAX` on the 64-bit targets modelled (`Swar.USIZE_BYTES = 8`) -/
def usizeMax : Nat := 2 ^ 64 - 1

/-- `usize::saturating_add` -/
@[inline] def usizeSatAdd (a b : Nat) : Nat := if a + b > usizeMax then usizeMax else a + b

/-- `usize::checked_add` -/
@[inline] def usizeCheckedAdd (a b : Nat) : Option Nat := if a + b > usizeMax then none else some (a + b)

/-- `struct FindIter<'h, 'n> { haystack, prestate, finder, pos }` -/
structure FindIter where
  haystack : Slice
  prestate : PrefilterState
  finder : Finder
  pos : Nat
  deriving Repr, Inhabited

namespace FindIter

/-- `FindIter::new(haystack, finder)` -/
def new (haystack : Slice) (finder : Finder) : FindIter :=
  { haystack := haystack, prestate := PrefilterState.new, finder := finder, pos := 0 }

/-- `FindIter::into_owned(self)` -/
def intoOwned (it : FindIter) (h : Heap) : FindIter × Heap :=
  let (f, h') := it.finder.intoOwned h
  ({ it with finder := f }, h')

/-- `#[derive(Clone)]` -/
def clone (it : FindIter) (h : Heap) : FindIter × Heap :=
  let (f, h') := it.finder.clone h
  ({ it with finder := f }, h')

/-- `Iterator::next`:
```
let needle = self.finder.needle();
let haystack = self.haystack.get(self.pos..)?;
let idx = self.finder.searcher.find(&mut self.prestate, haystack, needle)?;
let pos = self.pos + idx;
self.pos = pos + needle.len().max(1);
Some(pos)
```
(`self.prestate` is updated by `find` also when it returns `None`.) -/
def next (cfg : Api.Cfg) (it : FindIter) : M (Option Nat × FindIter) := do
  let needle := it.finder.needleSlice
  -- `self.haystack.get(self.pos..)?`
  if it.pos > it.haystack.len then pure (none, it) else
  let haystack : Slice := ⟨it.haystack.mem, it.haystack.off + it.pos, it.haystack.len - it.pos⟩
  let (r, st) ← it.finder.searcher.find cfg it.prestate haystack needle
  match r with
  | none => pure (none, { it with prestate := st })
  | some idx =>
    let pos := it.pos + idx
    pure (some pos, { it with prestate := st, pos := pos + max needle.len 1 })

/-- `Iterator::size_hint` -/
def sizeHint (it : FindIter) : Nat × Option Nat :=
  -- `self.haystack.len().checked_sub(self.pos)`
  if it.haystack.len < it.pos then (0, some 0)
  else
    let haystackLen := it.haystack.len - it.pos
    match it.finder.needleSlice.len with
    | 0 => (usizeSatAdd haystackLen 1, usizeCheckedAdd haystackLen 1)
    | needleLen => (0, some (haystackLen / needleLen))

end FindIter

/-! ### `FindRevIter` -/

/-- `struct FindRevIter<'h, 'n> { haystack, finder, pos: Option<usize> }` -/
structure FindRevIter where
  haystack : Slice
  finder : FinderRev
  pos : Option Nat
  deriving Repr, Inhabited

namespace FindRevIter

/-- `FindRevIter::new(haystack, finder)` -/
def new (haystack : Slice) (finder : FinderRev) : FindRevIter :=
  { haystack := haystack, finder := finder, pos := some haystack.len }

/-- `FindRevIter::into_owned(self)` -/
def intoOwned (it : FindRevIter) (h : Heap) : FindRevIter × Heap :=
  let (f, h') := it.finder.intoOwned h
  ({ it with finder := f }, h')

/-- `#[derive(Clone)]` -/
def clone (it : FindRevIter) (h : Heap) : FindRevIter × Heap :=
  let (f, h') := it.finder.clone h
  ({ it with finder := f }, h')

/-- `Iterator::next`:
```
let pos = match self.pos { None => return None, Some(pos) => pos };
let result = self.finder.rfind(&self.haystack[..pos]);
match result {
    None => None,
    Some(i) => {
        if pos == i { self.pos = pos.checked_sub(1); } else { self.pos = Some(i); }
        Some(i)
    }
}
``` -/
def next (cfg : Api.Cfg) (it : FindRevIter) : M (Option Nat × FindRevIter) :=
  match it.pos with
  | none => pure (none, it)
  | some pos => do
    let sub ← it.haystack.take "FindRevIter::next: &self.haystack[..pos]" pos
    let result ← it.finder.rfind cfg sub
    match result with
    | none => pure (none, it)
    | some i =>
      if pos == i then
        -- `pos.checked_sub(1)`
        pure (some i, { it with pos := if pos = 0 then none else some (pos - 1) })
      else pure (some i, { it with pos := some i })

end FindRevIter

/-! ### module level functions -/

/-- `memmem::find(haystack, needle)` -/
def find (cfg : Api.Cfg) (haystack needle : Slice) : M (Option Nat) := do
  if haystack.len < Generated.oneshotFwdThreshold then
    let f ← RabinKarp.Finder.new needle
    f.find haystack needle
  else
    let f ← Finder.new cfg needle
    f.find cfg haystack

/-- `memmem::rfind(haystack, needle)` -/
def rfind (cfg : Api.Cfg) (haystack needle : Slice) : M (Option Nat) := do
  if haystack.len < Generated.oneshotRevThreshold then
    let f ← RabinKarp.FinderRev.new needle
    f.rfind haystack needle
  else
    let f ← FinderRev.new needle
    f.rfind cfg haystack

/-- `memmem::find_iter(haystack, needle)` -/
def findIter (cfg : Api.Cfg) (haystack needle : Slice) : M FindIter := do
  let f ← Finder.new cfg needle
  pure (FindIter.new haystack f)

/-- `memmem::rfind_iter(haystack, needle)` -/
def rfindIter (haystack needle : Slice) : M FindRevIter := do
  let f ← FinderRev.new needle
  pure (FindRevIter.new haystack f)

/-- `Finder::find_iter(&self, haystack)` -/
def Finder.findIter (f : Finder) (haystack : Slice) : FindIter := FindIter.new haystack f.asRef

/-- `FinderRev::rfind_iter(&self, haystack)` -/
def FinderRev.rfindIter (f : FinderRev) (haystack : Slice) : FindRevIter :=
  FindRevIter.new haystack f.asRef

/-! ### operation machines (C08, C16, C17; used by the driver) -/

/-- one observation -/
inductive Out where
  | idx (o : Option Nat)
  | hint (lo : Nat) (hi : Option Nat)
  | bytes (b : Array UInt8)
  deriving Repr, DecidableEq, Inhabited

/-- operations on a `FindIter` / `FindRevIter`: `next`, `size_hint`, replace the iterator by
its `clone()`, replace it by `into_owned()` -/
inductive IterOp where
  | next | sizeHint | clone | intoOwned
  deriving Repr, DecidableEq, Inhabited

def FindIter.step (cfg : Api.Cfg) (op : IterOp) (it : FindIter) (h : Heap) :
    M (Option Out × FindIter × Heap) :=
  match op with
  | .next => do
    let (o, it') ← it.next cfg
    pure (some (.idx o), it', h)
  | .sizeHint => pure (some (.hint it.sizeHint.1 it.sizeHint.2), it, h)
  | .clone =>
    let (it', h') := it.clone h
    pure (none, it', h')
  | .intoOwned =>
    let (it', h') := it.intoOwned h
    pure (none, it', h')

/-- run a sequence of operations, collecting the observations -/
def FindIter.run (cfg : Api.Cfg) : List IterOp → FindIter → Heap → M (List Out × FindIter × Heap)
  | [], it, h => pure ([], it, h)
  | op :: ops, it, h => do
    let (o, it', h') ← it.step cfg op h
    let (os, it'', h'') ← FindIter.run cfg ops it' h'
    pure (o.toList ++ os, it'', h'')

/-- `FindRevIter` does not override `size_hint`: the default is `(0, None)` -/
def FindRevIter.step (cfg : Api.Cfg) (op : IterOp) (it : FindRevIter) (h : Heap) :
    M (Option Out × FindRevIter × Heap) :=
  match op with
  | .next => do
    let (o, it') ← it.next cfg
    pure (some (.idx o), it', h)
  | .sizeHint => pure (some (.hint 0 none), it, h)
  | .clone =>
    let (it', h') := it.clone h
    pure (none, it', h')
  | .intoOwned =>
    let (it', h') := it.intoOwned h
    pure (none, it', h')

def FindRevIter.run (cfg : Api.Cfg) :
    List IterOp → FindRevIter → Heap → M (List Out × FindRevIter × Heap)
  | [], it, h => pure ([], it, h)
  | op :: ops, it, h => do
    let (o, it', h') ← it.step cfg op h
    let (os, it'', h'') ← FindRevIter.run cfg ops it' h'
    pure (o.toList ++ os, it'', h'')

/-- operations on a `Finder`: `find(haystack)`, continue with `as_ref()`, with
`into_owned()`, with `clone()`, observe `needle()` -/
inductive FinderOp where
  | find (haystack : Slice)
  | asRef
  | intoOwned
  | clone
  | needle
  deriving Repr, Inhabited

def Finder.step (cfg : Api.Cfg) (op : FinderOp) (f : Finder) (h : Heap) :
    M (Option Out × Finder × Heap) :=
  match op with
  | .find haystack => do
    let r ← f.find cfg haystack
    pure (some (.idx r), f, h)
  | .asRef => pure (none, f.asRef, h)
  | .intoOwned =>
    let (f', h') := f.intoOwned h
    pure (none, f', h')
  | .clone =>
    let (f', h') := f.clone h
    pure (none, f', h')
  | .needle => pure (some (.bytes f.needleSlice.toArray), f, h)

def Finder.run (cfg : Api.Cfg) : List FinderOp → Finder → Heap → M (List Out × Finder × Heap)
  | [], f, h => pure ([], f, h)
  | op :: ops, f, h => do
    let (o, f', h') ← f.step cfg op h
    let (os, f'', h'') ← Finder.run cfg ops f' h'
    pure (o.toList ++ os, f'', h'')

/-- the same for `FinderRev` (`find` is `rfind`) -/
def FinderRev.step (cfg : Api.Cfg) (op : FinderOp) (f : FinderRev) (h : Heap) :
    M (Option Out × FinderRev × Heap) :=
  match op with
  | .find haystack => do
    let r ← f.rfind cfg haystack
    pure (some (.idx r), f, h)
  | .asRef => pure (none, f.asRef, h)
  | .intoOwned =>
    let (f', h') := f.intoOwned h
    pure (none, f', h')
  | .clone =>
    let (f', h') := f.clone h
    pure (none, f', h')
  | .needle => pure (some (.bytes f.needleSlice.toArray), f, h)

def FinderRev.run (cfg : Api.Cfg) :
    List FinderOp → FinderRev → Heap → M (List Out × FinderRev × Heap)
  | [], f, h => pure ([], f, h)
  | op :: ops, f, h => do
    let (o, f', h') ← f.step cfg op h
    let (os, f'', h'') ← FinderRev.run cfg ops f' h'
    pure (o.toList ++ os, f'', h'')

/-! ### running an iterator to exhaustion (`finder.find_iter(hay).count()`-style use) -/

/-- `for _ in it { n += 1 }`: call `next()` until the first `None`, counting the matches.
MODEL DEVIATION: the Rust loop has no bound; the model gives it `fuel` iterations (callers pass
`haystack.len() + 2`: at most `len + 1` matches, then the `None`) and panics when the fuel runs
out, which `Proofs/MemmemIter.lean` (`Finder.countIter_ok`) shows never happens. -/
def FindIter.countLoop (cfg : Api.Cfg) : Nat → FindIter → Nat → M Nat
  | 0, _, _ => fail (.panic "model: find_iter exhaustion ran out of fuel")
  | fuel + 1, it, acc => do
    match ← it.next cfg with
    | (none, _) => pure acc
    | (some _, it') => FindIter.countLoop cfg fuel it' (acc + 1)

def FindRevIter.countLoop (cfg : Api.Cfg) : Nat → FindRevIter → Nat → M Nat
  | 0, _, _ => fail (.panic "model: rfind_iter exhaustion ran out of fuel")
  | fuel + 1, it, acc => do
    match ← it.next cfg with
    | (none, _) => pure acc
    | (some _, it') => FindRevIter.countLoop cfg fuel it' (acc + 1)

/-- `finder.find_iter(haystack)` run to exhaustion.  `find_iter` is
`FindIter::new(haystack, self.as_ref())`: the iterator holds a BORROWED copy of the finder,
whatever the ownership of `self`, so nothing here can allocate (no heap argument). -/
def Finder.countIter (cfg : Api.Cfg) (f : Finder) (haystack : Slice) : M Nat :=
  FindIter.countLoop cfg (haystack.len + 2) (f.findIter haystack) 0

/-- `finder.rfind_iter(haystack)` run to exhaustion (`FindRevIter::new(haystack, self.as_ref())`) -/
def FinderRev.countIter (cfg : Api.Cfg) (f : FinderRev) (haystack : Slice) : M Nat :=
  FindRevIter.countLoop cfg (haystack.len + 2) (f.rfindIter haystack) 0

/-- `FinderOp` plus "iterate over this haystack to exhaustion and report the number of
matches" (kept as a separate type so that the `FinderOp` machines and their theorems are
unchanged) -/
inductive FinderOpX where
  | base (op : FinderOp)
  | iter (haystack : Slice)
  deriving Repr, Inhabited

/-- an observation of the extended machine -/
inductive OutX where
  | base (o : Out)
  | count (k : Nat)
  deriving Repr, DecidableEq, Inhabited

def Finder.stepX (cfg : Api.Cfg) (op : FinderOpX) (f : Finder) (h : Heap) :
    M (Option OutX × Finder × Heap) :=
  match op with
  | .base op => do
    let (o, f', h') ← f.step cfg op h
    pure (o.map OutX.base, f', h')
  | .iter haystack => do
    let k ← f.countIter cfg haystack
    pure (some (.count k), f, h)

def Finder.runX (cfg : Api.Cfg) : List FinderOpX → Finder → Heap → M (List OutX × Finder × Heap)
  | [], f, h => pure ([], f, h)
  | op :: ops, f, h => do
    let (o, f', h') ← f.stepX cfg op h
    let (os, f'', h'') ← Finder.runX cfg ops f' h'
    pure (o.toList ++ os, f'', h'')

def FinderRev.stepX (cfg : Api.Cfg) (op : FinderOpX) (f : FinderRev) (h : Heap) :
    M (Option OutX × FinderRev × Heap) :=
  match op with
  | .base op => do
    let (o, f', h') ← f.step cfg op h
    pure (o.map OutX.base, f', h')
  | .iter haystack => do
    let k ← f.countIter cfg haystack
    pure (some (.count k), f, h)

def FinderRev.runX (cfg : Api.Cfg) :
    List FinderOpX → FinderRev → Heap → M (List OutX × FinderRev × Heap)
  | [], f, h => pure ([], f, h)
  | op :: ops, f, h => do
    let (o, f', h') ← f.stepX cfg op h
    let (os, f'', h'') ← FinderRev.runX cfg ops f' h'
    pure (o.toList ++ os, f'', h'')

end Memchr.Memmem
