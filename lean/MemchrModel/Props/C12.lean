/-
C12  Each public substring building block agrees with naive search.

On its documented domain each low-level searcher returns exactly `Spec.leftmost` (resp.
`Spec.rightmost`) of the needle in the haystack - the naive definition: the least (greatest)
offset at which the needle occurs, `none` if there is none - and constructors report
unsupported inputs by returning `None` (or, for the unreachable index case of the vector
packed-pair constructor, by the bounds-check panic) rather than by answering wrongly.

Covered: Two-Way forward and reverse (every needle and haystack; the constructors are total and
the values they compute are certified, `twoway_cert_fwd` / `twoway_cert_rev`); Rabin-Karp forward
and reverse; Shift-Or (needles up to 15 bytes); the generic packed pair `find` on every lawful
vector type with the SSE2, AVX2, NEON and simd128 instances; the constructors
`shiftor::Finder::new`, `packedpair::Finder::new` (vector), `Pair::with_indices`, portable
`packedpair::Finder::new`.

Only statements, short proofs from the master lemmas, non-vacuity examples and
`#print axioms`.
-/
import MemchrModel.Proofs.RabinKarp
import MemchrModel.Proofs.ShiftOr
import MemchrModel.Proofs.Pair
import MemchrModel.Proofs.PairFallback
import MemchrModel.Proofs.PackedPair
import MemchrModel.Proofs.Sensible
import MemchrModel.Proofs.Neon
import MemchrModel.Proofs.TwoWayCert
import MemchrModel.Proofs.TwoWayRevCert

namespace Memchr.Props.C12

/-! ### Rabin-Karp (`src/arch/all/rabinkarp.rs`) -/

/-- `rabinkarp::Finder::new(needle).find(haystack, needle)` for EVERY valid haystack and needle
(all lengths: empty needle, needle longer than the haystack, needles longer than 32 bytes whose
`hash_2pow` wraps to 0, colliding hashes) returns exactly the leftmost occurrence, without any
fault; the steps (construction included) are at most
`2 * (h.len + 1) * (n.len / 4 + 2) + 2 * n.len`. -/
theorem rabinkarp_find (h n : Slice) (c : Ctr) (hh : h.Valid) (hn : n.Valid) :
    ∃ c', (RabinKarp.Finder.new n >>= fun f => f.find h n) c =
        .ok (Spec.leftmost h.toArray n.toArray) c' ∧
      c'.steps ≤ c.steps + 2 * (h.len + 1) * (n.len / 4 + 2) + 2 * n.len :=
  RabinKarp.find_correct h n c hh hn

/-- `rabinkarp::FinderRev::new(needle).rfind(haystack, needle)` for every valid haystack and
needle returns exactly the rightmost occurrence, without any fault; same step bound. -/
theorem rabinkarp_rfind (h n : Slice) (c : Ctr) (hh : h.Valid) (hn : n.Valid) :
    ∃ c', (RabinKarp.FinderRev.new n >>= fun f => f.rfind h n) c =
        .ok (Spec.rightmost h.toArray n.toArray) c' ∧
      c'.steps ≤ c.steps + 2 * (h.len + 1) * (n.len / 4 + 2) + 2 * n.len :=
  RabinKarp.rfind_correct h n c hh hn

/-- The same when the finder was constructed from another slice `n0` (valid or not) holding the
same bytes as the search needle `n` (the documented usage: "the needle given to `find` must be
the one given to `new`" is about contents, not addresses). -/
theorem rabinkarp_find_same_bytes (h n0 n : Slice) (c : Ctr) (hh : h.Valid) (hn : n.Valid)
    (hb : n0.toList = n.toList) :
    ∃ c', (RabinKarp.Finder.new n0 >>= fun f => f.find h n) c =
        .ok (Spec.leftmost h.toArray n.toArray) c' ∧
      c'.steps ≤ c.steps + 2 * (h.len + 1) * (n.len / 4 + 2) + 2 * n.len :=
  RabinKarp.find_correct_same_bytes h n0 n c hh hn hb

/-- Reverse version of `rabinkarp_find_same_bytes`. -/
theorem rabinkarp_rfind_same_bytes (h n0 n : Slice) (c : Ctr) (hh : h.Valid) (hn : n.Valid)
    (hb : n0.toList = n.toList) :
    ∃ c', (RabinKarp.FinderRev.new n0 >>= fun f => f.rfind h n) c =
        .ok (Spec.rightmost h.toArray n.toArray) c' ∧
      c'.steps ≤ c.steps + 2 * (h.len + 1) * (n.len / 4 + 2) + 2 * n.len :=
  RabinKarp.rfind_correct_same_bytes h n0 n c hh hn hb

/-- hypotheses are satisfiable: sub-slices of larger regions; the needle `[1, 2, 3]` occurs in
`[1, 2, 1, 2, 3]` after a partial match -/
example : (⟨⟨0, 4096, #[9, 1, 2, 1, 2, 3, 9]⟩, 1, 5⟩ : Slice).Valid ∧
    (⟨⟨1, 8192, #[7, 1, 2, 3]⟩, 1, 3⟩ : Slice).Valid := by
  simp [Slice.Valid]

/-! ### Shift-Or (`src/arch/all/shiftor.rs`) -/

/-- For EVERY valid needle of at most 15 bytes (`MAX_NEEDLE_LEN`; a matching 15-byte needle
included) and every valid haystack: `shiftor::Finder::new(needle)` returns a finder and its
`find(haystack)` returns exactly the leftmost occurrence; neither faults (the `1 << n` shifts
stay below 16 bits) and neither touches the step counter or load trace. -/
theorem shiftor_find (needle hay : Slice) (hvn : needle.Valid) (hvh : hay.Valid)
    (hlen : needle.len ≤ 15) (c : Ctr) :
    ∃ f, ShiftOr.Finder.new needle c = .ok (some f) c ∧
      f.find hay c = .ok (Spec.leftmost hay.toArray needle.toArray) c :=
  ShiftOr.shiftOr_correct needle hay hvn hvh hlen c

/-- Constructor: for EVERY needle slice, `shiftor::Finder::new` answers `None` exactly when the
needle is longer than 15 bytes (it reports the unsupported input instead of building a finder
that would answer wrongly). -/
theorem shiftor_new_none_iff (needle : Slice) (c : Ctr) :
    ShiftOr.Finder.new needle c = .ok none c ↔ needle.len > 15 :=
  ShiftOr.new_eq_none_iff needle c

/-- The empty needle: for every (even invalid) haystack slice, the finder is built and `find`
returns `Some(0)`, as naive search does. -/
theorem shiftor_find_empty (needle hay : Slice) (h : needle.len = 0) (c : Ctr) :
    ∃ f, ShiftOr.Finder.new needle c = .ok (some f) c ∧ f.find hay c = .ok (some 0) c :=
  ShiftOr.find_empty needle hay h c

/-- hypotheses are satisfiable: needle "aba" in "xababa" (overlapping occurrences) -/
example : (Slice.ofMem ⟨1, 64, #[97, 98, 97]⟩).Valid ∧
    (Slice.ofMem ⟨0, 4096, #[120, 97, 98, 97, 98, 97]⟩).Valid ∧
    (Slice.ofMem ⟨1, 64, #[97, 98, 97]⟩).len ≤ 15 :=
  ⟨Slice.ofMem_valid _, Slice.ofMem_valid _, by decide⟩

/-! ### generic packed pair `find` (`src/arch/generic/packedpair.rs`) -/

/-- The statement of C12 for the packed-pair `find` of one vector type `V`. For every valid
haystack and needle, every pair of distinct in-range needle offsets `i1 ≠ i2`, the finder `f`
returned by `Finder::new(needle, Pair{i1, i2})`, every haystack of at least
`f.min_haystack_len` bytes and every counter state: `find(haystack, needle)` returns exactly
the leftmost occurrence of the needle (wherever it lies: main loop chunks, the final
overlapping chunk with its masked lanes, the last `needle.len()` bytes), without any fault,
within `findCost` =
`((len - min_haystack_len) / BYTES + 2) * (1 + BYTES * (needle.len / 4 + 3))` steps. -/
def FindIsLeftmost (V : VecImpl) : Prop :=
  ∀ (hay needle : Slice), hay.Valid → needle.Valid →
  ∀ (i1 i2 : Nat), i1 ≠ i2 → i1 < needle.len → i2 < needle.len →
  ∀ (f : PackedPair.Finder) (c0 c0' : Ctr), PackedPair.Finder.new V needle i1 i2 c0 = .ok f c0' →
  f.minHaystackLen ≤ hay.len →
  ∀ (c : Ctr),
    ∃ c', PackedPair.find V f hay needle c = .ok (Spec.leftmost hay.toArray needle.toArray) c' ∧
      c'.steps ≤ c.steps + PackedPair.findCost V f hay needle

/-- C12 holds for the generic packed-pair `find` on EVERY lawful vector type. -/
theorem packedpair_find (V : VecImpl) (L : Lawful V) : FindIsLeftmost V :=
  PackedPair.find_correct L

/-- C12 for `arch::x86_64::sse2::packedpair::Finder::find`. -/
theorem packedpair_find_sse2 : FindIsLeftmost Sensible.sse2 :=
  packedpair_find Sensible.sse2 Sensible.lawful_sse2

/-- C12 for `arch::x86_64::avx2::packedpair::Finder::find`. -/
theorem packedpair_find_avx2 : FindIsLeftmost Sensible.avx2 :=
  packedpair_find Sensible.avx2 Sensible.lawful_avx2

/-- C12 for `arch::aarch64::neon::packedpair::Finder::find`. -/
theorem packedpair_find_neon : FindIsLeftmost Neon.impl :=
  packedpair_find Neon.impl Neon.lawful

/-- C12 for `arch::wasm32::simd128::packedpair::Finder::find`. -/
theorem packedpair_find_simd128 : FindIsLeftmost Sensible.simd128 :=
  packedpair_find Sensible.simd128 Sensible.lawful_simd128

/-- hypotheses are satisfiable (SSE2): needle "abcdefgh", pair `(0, 7)`, finder with
`min_haystack_len = 23`, a 40-byte haystack with a false start at offset 2 and the needle at
offset 21 -/
example : PackedPair.exHay.Valid ∧ PackedPair.exNeedle.Valid ∧ (0 : Nat) ≠ 7 ∧
    0 < PackedPair.exNeedle.len ∧ 7 < PackedPair.exNeedle.len ∧
    PackedPair.Finder.new Sensible.sse2 PackedPair.exNeedle 0 7 {} =
      .ok (PackedPair.mkFinder Sensible.sse2 PackedPair.exNeedle 0 7) {} ∧
    (PackedPair.mkFinder Sensible.sse2 PackedPair.exNeedle 0 7).minHaystackLen ≤
      PackedPair.exHay.len :=
  ⟨Slice.ofMem_valid _, Slice.ofMem_valid _, by decide,
   Nat.lt_trans (by decide) PackedPair.exNeedle_lt, PackedPair.exNeedle_lt, PackedPair.exNew _,
   PackedPair.exMin_le _ (by decide)⟩

/-! ### constructors -/

/-- Vector `packedpair::Finder::new(needle, pair)` for every `V`, needle and pair of in-range
offsets: returns normally, without touching the counter, the finder holding the two needle
bytes at the offsets and `min_haystack_len = max(needle.len(), max(i1, i2) + BYTES)`. -/
theorem packedpair_new_ok (V : VecImpl) (needle : Slice) (i1 i2 : Nat) (c : Ctr)
    (h1 : i1 < needle.len) (h2 : i2 < needle.len) :
    PackedPair.Finder.new V needle i1 i2 c = .ok (PackedPair.mkFinder V needle i1 i2) c :=
  PackedPair.new_ok needle i1 i2 c h1 h2

/-- Vector `packedpair::Finder::new` with an offset outside the needle (not reachable through
`Pair::new` / `Pair::with_indices`, which only hand out in-range offsets): the needle indexing
panics - no finder answering wrongly is built. -/
theorem packedpair_new_panics (V : VecImpl) (needle : Slice) (i1 i2 : Nat) (c : Ctr)
    (h : ¬ (i1 < needle.len ∧ i2 < needle.len)) :
    ∃ s, PackedPair.Finder.new V needle i1 i2 c = .fault (.panic s) := by
  by_cases h1 : i1 < needle.len
  · have h2 : ¬ i2 < needle.len := fun h2 => h ⟨h1, h2⟩
    exact ⟨"packedpair::new: needle[usize::from(pair.index2())]",
      by simp [PackedPair.Finder.new, Slice.get, h1, h2]⟩
  · exact ⟨"packedpair::new: needle[usize::from(pair.index1())]",
      by simp [PackedPair.Finder.new, Slice.get, h1]⟩

/-- `Pair::with_indices(needle, i1, i2)` for every needle and every two `u8` offsets: `Some`
exactly for two DISTINCT offsets INSIDE the needle, and then the pair it was given; `None` for
every unsupported input. -/
theorem pair_with_indices (needle : Slice) (i1 i2 : UInt8) (p : Pair) :
    Pair.withIndices needle i1 i2 = some p ↔
      p = ⟨i1, i2⟩ ∧ i1 ≠ i2 ∧ i1.toNat < needle.len ∧ i2.toNat < needle.len :=
  Pair.withIndices_eq_some_iff needle i1 i2 p

/-- Portable `packedpair::Finder::new(needle)` for EVERY needle slice: returns normally; `None`
exactly when the needle has fewer than 2 bytes; otherwise a finder whose pair is valid for the
needle and whose two bytes are the needle bytes at the pair's offsets; at most
`min(needle.len(), 255)` steps. -/
theorem fallback_new (needle : Slice) (c : Ctr) :
    ∃ r c', Fallback.Finder.new needle c = .ok r c' ∧ (r = none ↔ needle.len < 2) ∧
      (∀ f, r = some f → f.pair.ValidFor needle ∧
        f.byte1 = needle.getD f.pair.index1.toNat ∧ f.byte2 = needle.getD f.pair.index2.toNat) ∧
      c'.steps ≤ c.steps + min needle.len 255 :=
  Fallback.Finder.new_correct needle c

/-! ### Two-Way (`src/arch/all/twoway.rs`) -/

/-- **Two-Way forward.** `twoway::Finder::new(needle).find(haystack, needle)` for EVERY valid
needle and haystack (all lengths: empty needle, needle longer than the haystack; periodic
needles = the `Small { period }` case, non-periodic = `Large { shift }`; every critical-position
shape) returns exactly the leftmost occurrence, without any fault (none of the index computations
`i - critical_pos + 1`, `pos + needle.len() - 1`, ... underflows or leaves a slice), within
`3 * haystack.len + 8 * needle.len + 3` steps, construction included. -/
theorem twoway_find (needle haystack : Slice) (c : Ctr) (hnv : needle.Valid)
    (hhv : haystack.Valid) :
    ∃ c', (TwoWay.Finder.new needle >>= fun tw => TwoWay.Finder.find tw haystack needle) c =
        .ok (Spec.leftmost haystack.toArray needle.toArray) c' ∧
      c'.steps ≤ c.steps + 3 * haystack.len + 8 * needle.len + 3 :=
  TwoWay.find_correct_nopre needle haystack c hnv hhv

/-- **Two-Way reverse.** `twoway::FinderRev::new(needle).rfind(haystack, needle)` for every valid
needle and haystack returns exactly the rightmost occurrence, without any fault, within the same
step bound. -/
theorem twoway_rfind (needle haystack : Slice) (c : Ctr) (hnv : needle.Valid)
    (hhv : haystack.Valid) :
    ∃ c', (TwoWay.FinderRev.new needle >>= fun tw => TwoWay.FinderRev.rfind tw haystack needle) c =
        .ok (Spec.rightmost haystack.toArray needle.toArray) c' ∧
      c'.steps ≤ c.steps + 3 * haystack.len + 8 * needle.len + 3 :=
  TwoWay.rfind_correct needle haystack c hnv hhv

/-- **Two-Way forward with a prefilter** (`find_with_prefilter`, the form the meta searcher
calls): for every valid needle and haystack and every optional prefilter `pre` with strategy
`strat` (`PreOK`) that is sound for this needle on this haystack (`TwoWay.PreSound`: on every
tail of the haystack it returns normally and its candidate is at or before the first occurrence
in the tail, `None` only when there is none), in EVERY prefilter state: exactly the leftmost
occurrence, no fault; the prefilter keeps its strategy. -/
theorem twoway_find_with_prefilter (needle haystack : Slice) (pre : Option Pre) (c : Ctr)
    (strat : Slice → M (Option Nat)) (hnv : needle.Valid) (hhv : haystack.Valid)
    (hpre : TwoWay.PreOK strat pre)
    (hsound : pre ≠ none → TwoWay.PreSound needle haystack strat) :
    ∃ pre' c', (TwoWay.Finder.new needle >>= fun tw =>
          TwoWay.Finder.findWithPrefilter tw pre haystack needle) c =
        .ok (Spec.leftmost haystack.toArray needle.toArray, pre') c' ∧
      TwoWay.PreOK strat pre' ∧ (pre = none → pre' = none) ∧
      (pre = none → c'.steps ≤ c.steps + 3 * haystack.len + 8 * needle.len + 3) :=
  TwoWay.find_correct needle haystack pre c strat hnv hhv hpre hsound

/-- **The forward constructor is total and its output is certified.** For EVERY valid needle
`twoway::Finder::new` returns normally (there is no unsupported input to report), and the
`critical_pos` and `shift` it stores satisfy the certificate `CertFwd` - in one sentence: every
local repetition of the needle at `critical_pos` is a period of the whole needle and is longer
than `critical_pos` (a critical factorisation), and `Small { period }` holds the needle's
smallest period while `Large { shift }` holds a positive shift not exceeding it. The certificate
is a decidable statement about the needle alone (`TwoWay.certFwdCheck_iff`), and it is all the
search loops need (`TwoWay.find_eq_of_cert`). -/
theorem twoway_cert_fwd (needle : Slice) (hnv : needle.Valid) (c : Ctr) :
    ∃ tw c', TwoWay.Finder.new needle c = .ok tw c' ∧
      TwoWay.CertFwd needle.toArray tw.criticalPos tw.shift :=
  TwoWay.cert_fwd needle hnv c

/-- **The reverse constructor is total and its output is certified**: for every valid needle
`twoway::FinderRev::new` returns normally and its `critical_pos` and `shift` satisfy `CertRev`,
the mirror image of `CertFwd` (`critical_pos` inside the needle; every local repetition at
`critical_pos` is a period of the whole needle longer than the RIGHT part
`needle.len() - critical_pos`; same clause on `shift`). -/
theorem twoway_cert_rev (needle : Slice) (hnv : needle.Valid) (c : Ctr) :
    ∃ tw c', TwoWay.FinderRev.new needle c = .ok tw c' ∧
      TwoWay.CertRev needle.toArray tw.criticalPos tw.shift :=
  TwoWay.cert_rev needle hnv c

/-- What the certificate says, unfolded (`Per x k`: `k >= 1` and `x[t] = x[t + k]` whenever
`t + k < |x|`; `LR x crit k`: the same only for `crit - k <= t < crit`). -/
theorem twoway_cert_fwd_iff (x : Array UInt8) (crit : Nat) (shift : TwoWay.Shift) :
    TwoWay.CertFwd x crit shift ↔
      (∀ k, 1 ≤ k → TwoWay.LR x crit k → TwoWay.Per x k ∧ crit < k) ∧
      match shift with
      | .large s => (0 < x.size → 1 ≤ s) ∧ ∀ k, TwoWay.Per x k → s ≤ k
      | .small p => TwoWay.Per x p ∧ ∀ k, TwoWay.Per x k → p ≤ k :=
  Iff.rfl

/-- hypotheses are satisfiable: the needle "abaab" (certificate: `critical_pos = 2`,
`Small { period: 3 }`) and the haystack "abaaabaabab"; no prefilter; and a sound prefilter
strategy exists for every needle and haystack ("every position is a candidate") -/
example :
    let needle := Slice.ofMem ⟨1, 4096, "abaab".toUTF8.data⟩
    let haystack := Slice.ofMem ⟨0, 8192, "abaaabaabab".toUTF8.data⟩
    needle.Valid ∧ haystack.Valid ∧ TwoWay.PreOK (fun _ => pure none) none ∧
    TwoWay.CertFwd needle.toArray 2 (.small 3) ∧
    TwoWay.PreSound needle haystack (fun _ => pure (some 0)) :=
  ⟨Slice.ofMem_valid _, Slice.ofMem_valid _, (fun p hp => by cases hp),
   by decide,
   fun a _ c => ⟨some 0, c, rfl, nofun, fun cnd h q _ => by cases h; exact Nat.zero_le _⟩⟩

end Memchr.Props.C12

#print axioms Memchr.Props.C12.rabinkarp_find
#print axioms Memchr.Props.C12.rabinkarp_rfind
#print axioms Memchr.Props.C12.rabinkarp_find_same_bytes
#print axioms Memchr.Props.C12.rabinkarp_rfind_same_bytes
#print axioms Memchr.Props.C12.shiftor_find
#print axioms Memchr.Props.C12.shiftor_new_none_iff
#print axioms Memchr.Props.C12.shiftor_find_empty
#print axioms Memchr.Props.C12.packedpair_find
#print axioms Memchr.Props.C12.packedpair_find_sse2
#print axioms Memchr.Props.C12.packedpair_find_avx2
#print axioms Memchr.Props.C12.packedpair_find_neon
#print axioms Memchr.Props.C12.packedpair_find_simd128
#print axioms Memchr.Props.C12.packedpair_new_ok
#print axioms Memchr.Props.C12.packedpair_new_panics
#print axioms Memchr.Props.C12.pair_with_indices
#print axioms Memchr.Props.C12.fallback_new
#print axioms Memchr.Props.C12.twoway_find
#print axioms Memchr.Props.C12.twoway_rfind
#print axioms Memchr.Props.C12.twoway_find_with_prefilter
#print axioms Memchr.Props.C12.twoway_cert_fwd
#print axioms Memchr.Props.C12.twoway_cert_rev
#print axioms Memchr.Props.C12.twoway_cert_fwd_iff
