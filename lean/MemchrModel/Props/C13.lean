/-
C13  Substring search does work linear in haystack plus needle length.

The property is proved as stated, for every configuration, prefilter setting, ranker, valid
needle and valid haystack, with explicit constants and no further hypothesis: the headline is
`linear_work` at the end of this file, the bounds it is assembled from come before it.

What is counted.  A "step" is one tick of the model's step counter (`Ctr.steps`).  The model ticks
exactly where hook H2 (`#[cfg(memchr_verif)] crate::verif::tick(kind)`) ticks in the Rust source,
the same number of times on every path:
* one per vector chunk inspected by the generic `memchr` family (`VECTOR_CHUNK`), one per SWAR
  word (`SWAR_WORD`), one per byte of every byte-at-a-time loop (`BYTE`);
* one per 4-byte word (and tail) compared by `is_equal_raw` (`IS_EQUAL`);
* one per Rabin-Karp hash update, construction and rolling (`RK_HASH`);
* one per Two-Way outer iteration and per byte comparison (`TW_ITER`, `TW_CMP`), one per iteration
  of the maximal-suffix computations and of the byte-set / period preprocessing (`TW_SUFFIX`,
  `MISC`);
* one per packed-pair chunk and per candidate confirmed (`PP_CHUNK`, `PP_CANDIDATE`), one per
  iteration of the portable prefilter and of pair selection (`FALLBACK_PRE`, `MISC`);
* one per prefilter call of the meta searcher (`PRE_CALL`).
The kind is ignored: the model has one counter, so every bound below bounds the SUM of all kinds.
The differential driver compares the model's counter with the Rust counters for equality on every
operation, which is what ties the numbers here to the compiled code.

What is not modelled.  Wall-clock time, cache and branch behaviour, the cost of one vector
instruction versus one byte comparison (each is "one step"), allocation.  Shift-Or has no `tick`
hook in its loop and is not reachable from the meta searcher; its loop runs exactly
`haystack.len()` iterations by construction of the model (`ShiftOr.findLoop`).

Contents
* obligations on the generated constants the linearity argument relies on (`MAX_LEN`, the
  Rabin-Karp thresholds, the pair scan limit): changing one of them in `/repo` makes this file fail
  to compile;
* the ingredient bounds: `is_equal_raw` (`n / 4 + 2`), Rabin-Karp (a product, linear below the
  constant thresholds), generic packed pair (a product, linear for needles of at most `MAX_LEN`
  bytes), portable prefilter, pair selection, Two-Way without a prefilter (construction
  `6 * needle.len + 2`, search `3 * haystack.len + 2 * needle.len + 1`, forward and reverse);
* the dispatched `memchr` / `memrchr` family: `scanned + 2` steps (`memchr_cost`, `memrchr_cost`);
* every prefilter strategy: `4 * consumed + 1020` steps per call (`prefilter_cost`);
* Two-Way forward WITH a prefilter, every `PrefilterState`, adaptive shut-off included:
  `1031 * scanned + 2 * needle.len + 1022` (`twoway_pre_cost`);
* the meta searcher: `Searcher::new` `7 * needle.len + 257`, `Searcher::find`
  `1031 * scanned + 17 * needle.len + 2000`, `SearcherRev::new` `7 * needle.len + 2`,
  `SearcherRev::rfind` `3 * scannedRev + 17 * needle.len + 192` (`searcher_*_cost`);
* `Finder::new(..).find(..)`, the one-shot `memmem::find` / `memmem::rfind`
  (`finder_find_cost`, `oneshot_find_cost`, `oneshot_rfind_cost`);
* complete traversals: `find_iter` `2079 * haystack.len + 24 * needle.len + 2000 * k + 3305`,
  `rfind_iter` `23 * haystack.len + 24 * needle.len + 192 * k + 194` for `k` calls of `next()`
  (`find_iter_total_cost`, `rfind_iter_total_cost`);
* the headline `linear_work`: explicit `A = 2079`, `B = 5305` with
  `steps <= A * (haystack.len + needle.len) + B * (matches + 1)` for build + find / rfind / one-shot
  find / rfind / complete `find_iter` / `rfind_iter`, for every configuration, prefilter setting,
  ranker, needle and haystack.

Only statements, short proofs from the master lemmas in `Proofs/` (a `Memchr.Cost.X` there is the
bound as this file states it; the arithmetic rewriting of bounds into linear form is
`RabinKarp.bound_mono`, `PackedPair.cost_linear` and `Bridge4.budget_covers` at the end of
`Proofs/CostIter.lean`), non-vacuity examples and `#print axioms`.
-/
import MemchrModel.Proofs.IsEqual
import MemchrModel.Proofs.RabinKarp
import MemchrModel.Proofs.PackedPair
import MemchrModel.Proofs.Pair
import MemchrModel.Proofs.PairFallback
import MemchrModel.Proofs.Sensible
import MemchrModel.Proofs.CostIter
import MemchrModel.Generated.Consts

namespace Memchr.Props.C13

/-! ### obligations on the constants regenerated from the source on every run

If one of these constants is changed in `/repo` (e.g. `MAX_LEN = usize::MAX`, the mutation
mentioned in the property text), the regenerated `Generated/Consts.lean` makes the
corresponding theorem below fail to compile.  The first two are the very facts through which the
constants enter the step bound of `Searcher::find` (`Proofs/Searcher.lean`, proved there by
`decide`). -/

/-- `MAX_LEN` of `do_packed_search` (`src/memmem/searcher.rs`): the vector searcher only owns
needles of at most 64 bytes (32 in the source), so its confirm-by-memcmp costs a bounded number
of steps per candidate. -/
theorem maxlen_bounded : Generated.packedMaxLen ≤ 64 := Memmem.packedMaxLen_le

/-- `rabinkarp::is_fast` (`src/arch/all/rabinkarp.rs`): the searcher prefers Rabin-Karp only for
haystacks shorter than a constant of at most 64 bytes (16 in the source). -/
theorem rk_fast_threshold_bounded : Generated.rkFastThreshold ≤ 64 := Memmem.rkFastThreshold_le

/-- the one-shot `memmem::find` / `memmem::rfind` (`src/memmem/mod.rs`) use Rabin-Karp only for
haystacks shorter than a constant of at most 64 bytes (64 in the source), forward and reverse. -/
theorem oneshot_thresholds_bounded :
    Generated.oneshotFwdThreshold ≤ 64 ∧ Generated.oneshotRevThreshold ≤ 64 := by decide

/-- `Pair::with_ranker` scans at most the first 255 needle bytes (`take(u8::MAX)`), so pair
selection costs a bounded number of steps whatever the needle length. -/
theorem pair_scan_bounded : Generated.pairScanMax ≤ 255 := by decide

/-! ### `is_equal_raw` -/

/-- `is_equal_raw(x, y, n)` for every two readable ranges of `n` bytes (any regions, addresses,
alignments, counter state): returns normally with the comparison result in at most `n / 4 + 2`
steps (one per 4-byte word plus the tail). -/
theorem is_equal_raw_cost (mx my : Mem) (x y n : Nat) (c : Ctr)
    (hx1 : mx.base ≤ x) (hx2 : x + n ≤ mx.base + mx.bytes.size)
    (hy1 : my.base ≤ y) (hy2 : y + n ≤ my.base + my.bytes.size) :
    ∃ c', IsEqual.isEqualRaw mx my x y n c = .ok (decide (mx.window x n = my.window y n)) c' ∧
      c'.steps ≤ c.steps + n / 4 + 2 :=
  IsEqual.isEqualRaw_correct mx my x y n c hx1 hx2 hy1 hy2

/-- hypotheses are satisfiable: 6 bytes at addresses 101 and 201 of two small regions -/
example : ∃ (mx my : Mem) (x y n : Nat), mx.base ≤ x ∧ x + n ≤ mx.base + mx.bytes.size ∧
    my.base ≤ y ∧ y + n ≤ my.base + my.bytes.size ∧ 0 < n :=
  ⟨⟨0, 100, #[1, 2, 3, 4, 5, 6, 7]⟩, ⟨1, 200, #[9, 2, 3, 4, 5, 6, 7, 8]⟩, 101, 201, 6,
    by decide, by decide, by decide, by decide, by decide⟩

/-! ### Rabin-Karp -/

/-- Rabin-Karp forward, construction included, for every valid haystack `h` and needle `n`: the
leftmost occurrence in at most `2 * (h.len + 1) * (n.len / 4 + 2) + 2 * n.len` steps. This is a
product of the two lengths (each of the `h.len - n.len + 1` windows may be confirmed by
`is_equal_raw`); the meta searcher only calls Rabin-Karp on haystacks shorter than a constant
(see `rk_fast_threshold_bounded`, `oneshot_thresholds_bounded` and the next theorem). -/
theorem rabinkarp_find_cost (h n : Slice) (c : Ctr) (hh : h.Valid) (hn : n.Valid) :
    ∃ c', (RabinKarp.Finder.new n >>= fun f => f.find h n) c =
        .ok (Spec.leftmost h.toArray n.toArray) c' ∧
      c'.steps ≤ c.steps + 2 * (h.len + 1) * (n.len / 4 + 2) + 2 * n.len :=
  RabinKarp.find_correct h n c hh hn

/-- Rabin-Karp reverse, construction included: the rightmost occurrence within the same bound
(same remark). -/
theorem rabinkarp_rfind_cost (h n : Slice) (c : Ctr) (hh : h.Valid) (hn : n.Valid) :
    ∃ c', (RabinKarp.FinderRev.new n >>= fun f => f.rfind h n) c =
        .ok (Spec.rightmost h.toArray n.toArray) c' ∧
      c'.steps ≤ c.steps + 2 * (h.len + 1) * (n.len / 4 + 2) + 2 * n.len :=
  RabinKarp.rfind_correct h n c hh hn

/-- Rabin-Karp forward on a haystack of at most `T` bytes (every valid haystack and needle,
every `T`): at most `2 * (T + 1) * (n.len / 4 + 2) + 2 * n.len` steps, i.e. linear in the needle
length for the constant thresholds `T = 15` / `T = 63` of the callers. -/
theorem rabinkarp_find_cost_short_haystack (h n : Slice) (c : Ctr) (hh : h.Valid) (hn : n.Valid)
    (T : Nat) (hT : h.len ≤ T) :
    ∃ r c', (RabinKarp.Finder.new n >>= fun f => f.find h n) c = .ok r c' ∧
      c'.steps ≤ c.steps + 2 * (T + 1) * (n.len / 4 + 2) + 2 * n.len :=
  let ⟨c', e, hs⟩ := RabinKarp.find_correct h n c hh hn
  ⟨_, c', e, RabinKarp.bound_mono hT hs⟩

/-- Reverse version of `rabinkarp_find_cost_short_haystack`. -/
theorem rabinkarp_rfind_cost_short_haystack (h n : Slice) (c : Ctr) (hh : h.Valid) (hn : n.Valid)
    (T : Nat) (hT : h.len ≤ T) :
    ∃ r c', (RabinKarp.FinderRev.new n >>= fun f => f.rfind h n) c = .ok r c' ∧
      c'.steps ≤ c.steps + 2 * (T + 1) * (n.len / 4 + 2) + 2 * n.len :=
  let ⟨c', e, hs⟩ := RabinKarp.rfind_correct h n c hh hn
  ⟨_, c', e, RabinKarp.bound_mono hT hs⟩

/-- hypotheses are satisfiable: a 5-byte haystack (below both thresholds) and a 3-byte needle -/
example : (⟨⟨0, 4096, #[9, 1, 2, 1, 2, 3, 9]⟩, 1, 5⟩ : Slice).Valid ∧
    (⟨⟨1, 8192, #[7, 1, 2, 3]⟩, 1, 3⟩ : Slice).Valid ∧
    (⟨⟨0, 4096, #[9, 1, 2, 1, 2, 3, 9]⟩, 1, 5⟩ : Slice).len ≤ 15 := by
  simp [Slice.Valid]

/-! ### generic packed pair -/

/-- Packed pair `find` for every lawful `V`, valid haystack and needle, finder built by
`Finder::new(needle, Pair{i1, i2})` with distinct in-range offsets, and haystack of at least
`min_haystack_len` bytes: returns normally in at most
`(len / BYTES + 2) * (1 + BYTES * (needle.len / 4 + 3))` steps (chunks times the worst cost of a
chunk: one step plus up to `BYTES` confirmations by `is_equal_raw`). -/
theorem packedpair_find_cost (V : VecImpl) (L : Lawful V) (hay needle : Slice)
    (hh : hay.Valid) (hn : needle.Valid) (i1 i2 : Nat) (hne : i1 ≠ i2) (h1 : i1 < needle.len)
    (h2 : i2 < needle.len) (f : PackedPair.Finder) (c0 c0' : Ctr)
    (hf : PackedPair.Finder.new V needle i1 i2 c0 = .ok f c0')
    (hlen : f.minHaystackLen ≤ hay.len) (c : Ctr) :
    ∃ r c', PackedPair.find V f hay needle c = .ok r c' ∧
      c'.steps ≤ c.steps + (hay.len / V.bytes + 2) * (1 + V.bytes * (needle.len / 4 + 3)) :=
  PackedPair.find_cost L hay needle hh hn i1 i2 hne h1 h2 f c0 c0' hf hlen c

/-- The same for a needle of at most `N` bytes (every `N`; the searcher guarantees
`N = MAX_LEN`, see `maxlen_bounded`), in explicitly linear form: at most
`(N / 4 + 4) * haystack.len() + 2 * (1 + BYTES * (N / 4 + 3))` steps. With `N = usize::MAX`
(the mutation of the property text) the factor of `haystack.len()` would grow with the needle. -/
theorem packedpair_find_cost_linear (V : VecImpl) (L : Lawful V) (hay needle : Slice)
    (hh : hay.Valid) (hn : needle.Valid) (i1 i2 : Nat) (hne : i1 ≠ i2) (h1 : i1 < needle.len)
    (h2 : i2 < needle.len) (f : PackedPair.Finder) (c0 c0' : Ctr)
    (hf : PackedPair.Finder.new V needle i1 i2 c0 = .ok f c0')
    (hlen : f.minHaystackLen ≤ hay.len) (N : Nat) (hN : needle.len ≤ N) (c : Ctr) :
    ∃ r c', PackedPair.find V f hay needle c = .ok r c' ∧
      c'.steps ≤ c.steps + (N / 4 + 4) * hay.len + 2 * (1 + V.bytes * (N / 4 + 3)) :=
  let ⟨r, c', hr, hc⟩ :=
    PackedPair.find_cost L hay needle hh hn i1 i2 hne h1 h2 f c0 c0' hf hlen c
  ⟨r, c', hr, PackedPair.cost_linear hN hc⟩

/-- Packed pair `find` with a FOREIGN search needle no longer than the haystack (every lawful
`V`, every `FinderOk` finder, every valid haystack of at least `min_haystack_len` bytes): still
within `findCost` = `((len - min_haystack_len) / BYTES + 2) * (1 + BYTES * (needle.len / 4 + 3))`
steps. -/
theorem packedpair_find_foreign_cost (V : VecImpl) (L : Lawful V) (f : PackedPair.Finder)
    (hok : PackedPair.FinderOk V f) (hay needle : Slice) (hh : hay.Valid) (hn : needle.Valid)
    (hlen : f.minHaystackLen ≤ hay.len) (hnl : needle.len ≤ hay.len) (c : Ctr) :
    ∃ r c', PackedPair.find V f hay needle c = .ok r c' ∧ PackedPair.FindRes' V f hay needle r ∧
      c'.steps ≤ c.steps + PackedPair.findCost V f hay needle :=
  PackedPair.find_foreign_no_fault L f hok hay needle hh hn hlen hnl c

/-- Packed pair `find_prefilter` for every lawful `V`, every `FinderOk` finder and every valid
haystack of at least `min_haystack_len` bytes: one step per chunk inspected - at most
`x / BYTES + 2` steps when it answers `Some(x)`, at most `len / BYTES + 2` when it answers
`None`. (A caller that restarts the prefilter after each candidate therefore pays for the bytes
skipped plus a constant per call.) -/
theorem packedpair_prefilter_cost (V : VecImpl) (L : Lawful V) (f : PackedPair.Finder)
    (hok : PackedPair.FinderOk V f) (hay : Slice) (hh : hay.Valid)
    (hlen : f.minHaystackLen ≤ hay.len) (c : Ctr) :
    ∃ r c', PackedPair.findPrefilter V f hay c = .ok r c' ∧
      (∀ x, r = some x → c'.steps ≤ c.steps + x / V.bytes + 2) ∧
      (r = none → c'.steps ≤ c.steps + hay.len / V.bytes + 2) := by
  obtain ⟨r, c', hr, -, hcost⟩ := PackedPair.findPrefilter_spec L f hok hay hh hlen c
  have hb := Nat.le_trans hcost (Nat.add_le_add_left (PackedPair.preCost'_le_div V f hay r) _)
  rw [← Nat.add_assoc] at hb
  refine ⟨r, c', hr, fun x hx => ?_, fun hx => ?_⟩
  · subst hx
    exact hb
  · subst hx
    exact hb

/-- AVX2 instance of `packedpair_find_cost_linear` with the needle bound `MAX_LEN` taken from the
regenerated constants: the step count is at most
`(MAX_LEN / 4 + 4) * haystack.len() + 2 * (1 + 32 * (MAX_LEN / 4 + 3))`. -/
theorem packedpair_find_cost_avx2 (hay needle : Slice)
    (hh : hay.Valid) (hn : needle.Valid) (i1 i2 : Nat) (hne : i1 ≠ i2) (h1 : i1 < needle.len)
    (h2 : i2 < needle.len) (f : PackedPair.Finder) (c0 c0' : Ctr)
    (hf : PackedPair.Finder.new Sensible.avx2 needle i1 i2 c0 = .ok f c0')
    (hlen : f.minHaystackLen ≤ hay.len) (hN : needle.len ≤ Generated.packedMaxLen) (c : Ctr) :
    ∃ r c', PackedPair.find Sensible.avx2 f hay needle c = .ok r c' ∧
      c'.steps ≤ c.steps + (Generated.packedMaxLen / 4 + 4) * hay.len +
        2 * (1 + Sensible.avx2.bytes * (Generated.packedMaxLen / 4 + 3)) :=
  packedpair_find_cost_linear Sensible.avx2 Sensible.lawful_avx2 hay needle hh hn i1 i2 hne h1 h2
    f c0 c0' hf hlen Generated.packedMaxLen hN c

/-- hypotheses are satisfiable (AVX2): needle "abcdefgh" of `8 <= MAX_LEN` bytes, pair `(0, 7)`,
finder with `min_haystack_len = max(8, 7 + 32) = 39`, the 40-byte example haystack -/
example : PackedPair.exHay.Valid ∧ PackedPair.exNeedle.Valid ∧ (0 : Nat) ≠ 7 ∧
    0 < PackedPair.exNeedle.len ∧ 7 < PackedPair.exNeedle.len ∧
    PackedPair.Finder.new Sensible.avx2 PackedPair.exNeedle 0 7 {} =
      .ok (PackedPair.mkFinder Sensible.avx2 PackedPair.exNeedle 0 7) {} ∧
    PackedPair.FinderOk Sensible.avx2 (PackedPair.mkFinder Sensible.avx2 PackedPair.exNeedle 0 7) ∧
    (PackedPair.mkFinder Sensible.avx2 PackedPair.exNeedle 0 7).minHaystackLen ≤
      PackedPair.exHay.len ∧
    PackedPair.exNeedle.len ≤ Generated.packedMaxLen :=
  ⟨Slice.ofMem_valid _, Slice.ofMem_valid _, by decide,
   Nat.lt_trans (by decide) PackedPair.exNeedle_lt, PackedPair.exNeedle_lt, PackedPair.exNew _,
   PackedPair.mkFinder_ok _ 0 7 (by decide), PackedPair.exMin_le _ (by decide),
   PackedPair.exNeedle_len ▸ (by decide : 8 ≤ Generated.packedMaxLen)⟩

/-! ### portable prefilter and pair selection -/

/-- Portable `find_prefilter` for every `memchr` that finds the first position of a byte within
`scanned + K` steps (`MemchrOk memchr K`: `scanned` = the position found plus one, or the length
when absent), every finder and every valid haystack: the least candidate in at most
`(K + 2) * haystack.len() + K + 1` steps - each loop iteration consumes at least the bytes its
`memchr` call scanned, so restarts do not add up to more than linear work. -/
theorem fallback_prefilter_cost {memchr : UInt8 → Slice → M (Option Nat)} {K : Nat}
    (hm : Fallback.MemchrOk memchr K) (f : Fallback.Finder) (hay : Slice) (hv : hay.Valid)
    (c : Ctr) :
    ∃ r c', Fallback.findPrefilter memchr f hay c = .ok r c' ∧
      Fallback.PreRes f.byte1 f.byte2 f.pair.index1.toNat f.pair.index2.toNat hay r ∧
      c'.steps ≤ c.steps + (K + 2) * hay.len + K + 1 :=
  Fallback.findPrefilter_correct hm f hay hv c

/-- Pair selection `Pair::with_ranker` for EVERY needle and ranker: at most
`min(needle.len(), 255)` steps (and no raw load), whatever the needle length. -/
theorem pair_with_ranker_cost (needle : Slice) (rank : UInt8 → UInt8) (c : Ctr) :
    ∃ r c', Pair.withRanker needle rank c = .ok r c' ∧
      (r = none ↔ needle.len < 2) ∧
      (∀ p, r = some p → p.ValidFor needle ∧ p.index1.toNat ≤ 254 ∧ p.index2.toNat ≤ 254) ∧
      c'.steps ≤ c.steps + min needle.len 255 ∧ c'.loads = c.loads :=
  Pair.withRanker_correct needle rank c

/-- hypotheses of `fallback_prefilter_cost` are satisfiable: the specification `memchr`
(`K = 0`) and a 9-byte haystack -/
example : Fallback.MemchrOk Fallback.specMemchr 0 ∧
    (Slice.ofMem ⟨0, 4096, #[120, 120, 97, 98, 99, 97, 98, 120, 120]⟩).Valid :=
  ⟨Fallback.specMemchr_ok, Nat.le_of_eq (Nat.zero_add _)⟩

/-! ### Two-Way (`src/arch/all/twoway.rs`) -/

/-- **Two-Way forward, construction + search**: `twoway::Finder::new(needle).find(haystack,
needle)` for EVERY valid needle and haystack (periodic needles in haystacks made of their own
near-periods, `a^m` in `(a^(m-1) b)^r`, Fibonacci / Thue-Morse words - there is no side
condition) returns the leftmost occurrence in at most `3 * haystack.len + 8 * needle.len + 3`
steps (one step per byte comparison and per byte-set shift). -/
theorem twoway_find_cost (needle haystack : Slice) (c : Ctr) (hnv : needle.Valid)
    (hhv : haystack.Valid) :
    ∃ c', (TwoWay.Finder.new needle >>= fun tw => TwoWay.Finder.find tw haystack needle) c =
        .ok (Spec.leftmost haystack.toArray needle.toArray) c' ∧
      c'.steps ≤ c.steps + 3 * haystack.len + 8 * needle.len + 3 :=
  TwoWay.find_correct_nopre needle haystack c hnv hhv

/-- **Two-Way reverse, construction + search**: `twoway::FinderRev::new(needle).rfind(haystack,
needle)` for every valid needle and haystack: the rightmost occurrence in at most
`3 * haystack.len + 8 * needle.len + 3` steps. -/
theorem twoway_rfind_cost (needle haystack : Slice) (c : Ctr) (hnv : needle.Valid)
    (hhv : haystack.Valid) :
    ∃ c', (TwoWay.FinderRev.new needle >>= fun tw => TwoWay.FinderRev.rfind tw haystack needle) c =
        .ok (Spec.rightmost haystack.toArray needle.toArray) c' ∧
      c'.steps ≤ c.steps + 3 * haystack.len + 8 * needle.len + 3 :=
  TwoWay.rfind_correct needle haystack c hnv hhv

/-- **Two-Way forward construction alone** (`twoway::Finder::new`: the byte set, two maximal
suffix computations, the period check), for every valid needle: returns normally in at most
`6 * needle.len + 2` steps. -/
theorem twoway_new_cost (needle : Slice) (c : Ctr) (hnv : needle.Valid) :
    ∃ tw c', TwoWay.Finder.new needle c = .ok tw c' ∧
      c'.steps ≤ c.steps + 6 * needle.len + 2 :=
  let ⟨tw, c', h, hs, _⟩ := TwoWay.finder_new_spec needle c hnv
  ⟨tw, c', h, hs⟩

/-- **Two-Way reverse construction alone** (`twoway::FinderRev::new`), for every valid needle:
at most `6 * needle.len + 2` steps. -/
theorem twoway_rev_new_cost (needle : Slice) (c : Ctr) (hnv : needle.Valid) :
    ∃ tw c', TwoWay.FinderRev.new needle c = .ok tw c' ∧
      c'.steps ≤ c.steps + 6 * needle.len + 2 :=
  let ⟨tw, c', h, hs, _⟩ := TwoWay.finderRev_new_spec needle c hnv
  ⟨tw, c', h, hs⟩

/-- **One forward search with an already constructed finder** (how `Finder` and `find_iter` use
Two-Way: construct once, search many times): for every valid needle and haystack and the value
`tw` that `twoway::Finder::new(needle)` returned, `tw.find(haystack, needle)` from any counter
state returns the leftmost occurrence in at most `3 * haystack.len + 2 * needle.len + 1`
steps. -/
theorem twoway_search_cost (needle haystack : Slice) (tw : TwoWay.TwoWay) (c0 c0' : Ctr)
    (hnv : needle.Valid) (hhv : haystack.Valid)
    (hnew : TwoWay.Finder.new needle c0 = .ok tw c0') (c : Ctr) :
    ∃ c', TwoWay.Finder.find tw haystack needle c =
        .ok (Spec.leftmost haystack.toArray needle.toArray) c' ∧
      c'.steps ≤ c.steps + 3 * haystack.len + 2 * needle.len + 1 :=
  let ⟨_, c', e, hs, _⟩ :=
    TwoWay.find_run_of_cert needle needle haystack tw c0 c0' hnv hnv hhv rfl hnew none nofun c
  ⟨c', bind_ok e, hs rfl⟩

/-- **One reverse search with an already constructed finder**: likewise for the value returned
by `twoway::FinderRev::new(needle)`. -/
theorem twoway_rsearch_cost (needle haystack : Slice) (tw : TwoWay.TwoWay) (c0 c0' : Ctr)
    (hnv : needle.Valid) (hhv : haystack.Valid)
    (hnew : TwoWay.FinderRev.new needle c0 = .ok tw c0') (c : Ctr) :
    ∃ c', TwoWay.FinderRev.rfind tw haystack needle c =
        .ok (Spec.rightmost haystack.toArray needle.toArray) c' ∧
      c'.steps ≤ c.steps + 3 * haystack.len + 2 * needle.len + 1 :=
  let ⟨c', e, hs⟩ :=
    TwoWay.rfind_run_of_cert needle needle haystack tw c0 c0' hnv hnv hhv rfl hnew c
  ⟨c', e, TwoWay.le_of_endOf hs⟩

/-- hypotheses are satisfiable: the periodic needle "abaab" and the haystack "abaaabaabab" are
valid slices, and `Finder::new` / `FinderRev::new` do return a value for the needle (by
`twoway_new_cost` / `twoway_rev_new_cost`, from every counter state) -/
example :
    let needle := Slice.ofMem ⟨1, 4096, "abaab".toUTF8.data⟩
    let haystack := Slice.ofMem ⟨0, 8192, "abaaabaabab".toUTF8.data⟩
    needle.Valid ∧ haystack.Valid ∧ (∃ tw c', TwoWay.Finder.new needle {} = .ok tw c') ∧
    (∃ tw c', TwoWay.FinderRev.new needle {} = .ok tw c') :=
  have hv : (Slice.ofMem ⟨1, 4096, "abaab".toUTF8.data⟩).Valid := Slice.ofMem_valid _
  ⟨hv, Slice.ofMem_valid _,
   let ⟨tw, c', h, _⟩ := twoway_new_cost _ {} hv; ⟨tw, c', h⟩,
   let ⟨tw, c', h, _⟩ := twoway_rev_new_cost _ {} hv; ⟨tw, c', h⟩⟩

/-! ### the dispatched `memchr` family (`src/memchr.rs`, every backend) -/

section Full

open Memchr.Memmem

/-- **`memchr` / `memchr2` / `memchr3`** of every build + CPU configuration `cfg` (every backend:
the generic vector routine on SSE2 / AVX2 / NEON / simd128 including the wrappers' byte loops, and
SWAR), every needle set `ns` (1 to 3 bytes), every valid haystack and counter state: returns the
index of the first needle byte without a fault in at most `scanned + 2` steps, where `scanned` =
index + 1, or `haystack.len()` when there is none.  Counted: vector chunks, SWAR words, byte-loop
bytes. -/
theorem memchr_cost (cfg : Api.Cfg) (ns : Needles) (hay : Slice) (hv : hay.Valid) (c : Ctr) :
    ∃ c', Api.memchr cfg ns false hay c = .ok (Api.specIdx ns false hay) c' ∧
      c'.steps ≤ c.steps + Api.scannedFwd (Api.specIdx ns false hay) hay.len + 2 :=
  Cost.memchr cfg ns hay hv c

/-- **`memrchr` / `memrchr2` / `memrchr3`**, likewise: the index of the last needle byte in at
most `scanned + 2` steps, `scanned` = `haystack.len()` - index, or `haystack.len()` when there is
none. -/
theorem memrchr_cost (cfg : Api.Cfg) (ns : Needles) (hay : Slice) (hv : hay.Valid) (c : Ctr) :
    ∃ c', Api.memchr cfg ns true hay c = .ok (Api.specIdx ns true hay) c' ∧
      c'.steps ≤ c.steps + Api.scannedRev (Api.specIdx ns true hay) hay.len + 2 :=
  Cost.memrchr cfg ns hay hv c

/-- hypotheses are satisfiable: a 9-byte haystack -/
example : (Slice.ofMem ⟨0, 4096, #[120, 120, 97, 98, 99, 97, 98, 120, 120]⟩).Valid :=
  Nat.le_of_eq (Nat.zero_add _)

/-! ### prefilters and Two-Way with a prefilter -/

/-- **Every prefilter strategy `Searcher::new` can build** (`p.GoodFor n`: the portable
packed-pair prefilter on top of the dispatched `memchr`, a vector `find_prefilter`, or
`find_simple` for haystacks below `min_haystack_len`), for every configuration, valid needle and
valid haystack: one call returns normally, is sound (every occurrence `q` of the needle forces a
candidate `a <= q`), a candidate lies inside the haystack, and the call costs at most
`4 * consumed + 1020` steps, `consumed` = candidate offset + 1, or `haystack.len()` when there is
no candidate.  (The constant 1020 comes from the pair offsets being `u8`s.) -/
theorem prefilter_cost (cfg : Api.Cfg) {n : Slice} (hn : n.Valid) {p : Prefilter}
    (hg : p.GoodFor n) (hay : Slice) (hh : hay.Valid) (c : Ctr) :
    ∃ r c', p.find cfg hay c = .ok r c' ∧
      (∀ q, Spec.OccAt hay.toArray n.toArray q → ∃ a, r = some a ∧ a ≤ q) ∧
      (∀ x, r = some x → x < hay.len) ∧
      c'.steps ≤ c.steps + 4 * Fallback.scanned r hay.len + 1020 :=
  Cost.prefilter cfg hn hg hay hh c

/-- **Two-Way forward WITH a prefilter** (`find_with_prefilter(pre, haystack, n)`, the case the
adaptive shut-off `PrefilterState::is_effective` exists for).  Quantified over: every valid needle
`n0` with the finder `tw` that `twoway::Finder::new(n0)` returned, every valid search needle `n`
holding the bytes of `n0`, every valid haystack, and `pre = None` or ANY `Pre` (any
`PrefilterState`: any `skips` / `skipped` counters, inert or not) whose strategy is sound on every
valid haystack (`hsound`) and costs at most `4 * consumed + 1020` steps per call with candidates
inside the slice (`hcost`, `TwoWay.StratCost`; both hold for every strategy of `prefilter_cost`).
Conclusion: the leftmost occurrence, no fault, at most
`1031 * scanned + 2 * needle.len() + 1022` steps, `scanned` = answer + 1, or `haystack.len()` for
`None`.  Counted: Two-Way iterations and comparisons, prefilter calls and everything they tick. -/
theorem twoway_pre_cost (n0 n hay : Slice) (tw : TwoWay.TwoWay) (c0 c0' : Ctr)
    (hn0 : n0.Valid) (hn : n.Valid) (hh : hay.Valid) (hbytes : n.toList = n0.toList)
    (hnew : TwoWay.Finder.new n0 c0 = .ok tw c0') (pre : Option Pre)
    (hsound : ∀ p, pre = some p → ∀ h' : Slice, h'.Valid → ∀ c, ∃ r c', p.strat h' c = .ok r c' ∧
      ∀ q, Spec.OccAt h'.toArray n.toArray q → ∃ a, r = some a ∧ a ≤ q)
    (hcost : ∀ p, pre = some p → TwoWay.StratCost p.strat) (c : Ctr) :
    ∃ pre' c', TwoWay.Finder.findWithPrefilter tw pre hay n c =
        .ok (Spec.leftmost hay.toArray n.toArray, pre') c' ∧
      c'.steps ≤ c.steps + 1031 * Fallback.scanned (Spec.leftmost hay.toArray n.toArray) hay.len +
        2 * n.len + 1022 := by
  obtain ⟨pre', c', e, _, hs⟩ :=
    TwoWay.find_run_of_cert n0 n hay tw c0 c0' hn0 hn hh hbytes hnew pre hsound c
  exact ⟨pre', c', e, Nat.le_trans (hs hcost) (Nat.add_le_add_left (by decide) _)⟩

/-- hypotheses of `twoway_pre_cost` are satisfiable: valid slices, a finder exists, and `pre =
None` satisfies `hsound` / `hcost` vacuously; the strategy "never a candidate restriction"
(`fun _ => pure none`) has the required cost, and so has every strategy of `prefilter_cost` -/
example : Cost.exNeedle.Valid ∧ Cost.exHay.Valid ∧ Cost.exNeedle.toList = Cost.exNeedle.toList ∧
    (∃ tw c0', TwoWay.Finder.new Cost.exNeedle {} = .ok tw c0') ∧
    (∀ p : Pre, (none : Option Pre) = some p → TwoWay.StratCost p.strat) ∧
    TwoWay.StratCost (fun _ => pure none) ∧
    (∀ (cfg : Api.Cfg) (p : Prefilter), p.GoodFor Cost.exNeedle → TwoWay.StratCost (p.find cfg)) :=
  ⟨Cost.exNeedle_valid, Cost.exHay_valid, rfl,
   let ⟨tw, c', h, _⟩ := twoway_new_cost Cost.exNeedle {} Cost.exNeedle_valid; ⟨tw, c', h⟩,
   (fun _ h => nomatch h), TwoWay.stratCost_none,
   fun cfg _ hg => Prefilter.find_stratCost cfg Cost.exNeedle_valid hg⟩

/-! ### the meta searcher (`src/memmem/searcher.rs`) -/

/-- **`Searcher::new(prefilter, ranker, needle)`** for every configuration, prefilter setting
(`none` / `auto`), ranker and valid needle: returns normally a searcher that is good for the needle
and gives the vector (packed pair) kind only needles of at most `MAX_LEN` bytes, in at most
`7 * needle.len() + 257` steps.  Counted: Rabin-Karp hash construction, pair selection, Two-Way
preprocessing. -/
theorem searcher_new_cost (cfg : Api.Cfg) (pf : PrefilterConfig) (rank : UInt8 → UInt8)
    (needle : Slice) (hn : needle.Valid) (c : Ctr) :
    ∃ s c', Searcher.new cfg pf rank needle c = .ok s c' ∧ s.GoodFor needle ∧
      PackedOk needle s ∧ c'.steps ≤ c.steps + 7 * needle.len + 257 :=
  Searcher.new_run cfg pf rank needle hn c

/-- **`Searcher::find`** for the searcher `s` that `Searcher::new` returned for `n0` (any
configuration, prefilter setting, ranker), every valid search needle `n` holding the bytes of
`n0`, every valid haystack, EVERY `PrefilterState` and counter state - every strategy: empty
needle, one byte (`memchr`), Rabin-Karp on short haystacks, packed pair, Two-Way with or without a
prefilter: the leftmost occurrence without a fault in at most
`1031 * scanned + 17 * needle.len() + 2000` steps, `scanned` = answer + 1, or `haystack.len()` when
the answer is `None`. -/
theorem searcher_find_cost (cfg : Api.Cfg) (pf : PrefilterConfig) (rank : UInt8 → UInt8)
    (n0 : Slice) (hn0 : n0.Valid) (c0 c0' : Ctr) (s : Searcher)
    (hnew : Searcher.new cfg pf rank n0 c0 = .ok s c0')
    (n hay : Slice) (hn : n.Valid) (hh : hay.Valid) (hb : n.toList = n0.toList)
    (st : PrefilterState) (c : Ctr) :
    ∃ st' c', s.find cfg st hay n c = .ok (Spec.leftmost hay.toArray n.toArray, st') c' ∧
      c'.steps ≤ c.steps + 1031 * Fallback.scanned (Spec.leftmost hay.toArray n.toArray) hay.len +
        17 * n.len + 2000 :=
  Cost.searcher_find cfg pf rank n0 hn0 c0 c0' s hnew n hay hn hh hb st c

/-- **`SearcherRev::new(needle)`** for every valid needle: a reverse searcher that is good for the
needle in at most `7 * needle.len() + 2` steps. -/
theorem searcher_rev_new_cost (needle : Slice) (hn : needle.Valid) (c : Ctr) :
    ∃ s c', SearcherRev.new needle c = .ok s c' ∧ s.GoodFor needle ∧
      c'.steps ≤ c.steps + 7 * needle.len + 2 :=
  SearcherRev.new_run needle hn c

/-- **`SearcherRev::rfind`** for the searcher `SearcherRev::new` returned for `n0`, every
configuration, every valid search needle `n` holding the bytes of `n0`, every valid haystack: the
rightmost occurrence in at most `3 * scannedRev + 17 * needle.len() + 192` steps, `scannedRev` =
`haystack.len()` - answer, or `haystack.len()` when the answer is `None`. -/
theorem searcher_rfind_cost (cfg : Api.Cfg) (n0 : Slice) (hn0 : n0.Valid) (c0 c0' : Ctr)
    (s : SearcherRev) (hnew : SearcherRev.new n0 c0 = .ok s c0')
    (n hay : Slice) (hn : n.Valid) (hh : hay.Valid) (hb : n.toList = n0.toList) (c : Ctr) :
    ∃ c', s.rfind cfg hay n c = .ok (Spec.rightmost hay.toArray n.toArray) c' ∧
      c'.steps ≤ c.steps + 3 * Api.scannedRev (Spec.rightmost hay.toArray n.toArray) hay.len +
        17 * n.len + 192 := by
  have hg := Holds.of_run (SearcherRev.new_ok n0 hn0 c0) hnew
  simpa only [Nat.add_assoc] using SearcherRev.rfind_run cfg (hg.congr hb) hay hh hn c

/-- hypotheses of `searcher_find_cost` / `searcher_rfind_cost` are satisfiable: for every
configuration `Searcher::new` / `SearcherRev::new` do return a searcher for the example needle
"abaab", the slices are valid and the search needle has the bytes of the construction needle -/
example (cfg : Api.Cfg) :
    (∃ s c0', Searcher.new cfg .auto Pair.defaultRank Cost.exNeedle {} = .ok s c0') ∧
    (∃ s c0', SearcherRev.new Cost.exNeedle {} = .ok s c0') ∧
    Cost.exNeedle.Valid ∧ Cost.exHay.Valid ∧ Cost.exNeedle.toList = Cost.exNeedle.toList :=
  ⟨let ⟨s, c', e, _⟩ := searcher_new_cost cfg .auto Pair.defaultRank _ Cost.exNeedle_valid {}
   ⟨s, c', e⟩,
   let ⟨s, c', e, _⟩ := searcher_rev_new_cost _ Cost.exNeedle_valid {}; ⟨s, c', e⟩,
   Cost.exNeedle_valid, Cost.exHay_valid, rfl⟩

/-! ### `Finder` and the one-shot functions (`src/memmem/mod.rs`) -/

/-- **`Finder::new(needle).find(haystack)`**, construction included, every configuration, valid
needle and haystack: the leftmost occurrence in at most
`1031 * scanned + 24 * needle.len() + 2257` steps. -/
theorem finder_find_cost (cfg : Api.Cfg) (needle hay : Slice) (hn : needle.Valid)
    (hh : hay.Valid) (c : Ctr) :
    ∃ c', (Finder.new cfg needle >>= fun f => f.find cfg hay) c =
        .ok (Spec.leftmost hay.toArray needle.toArray) c' ∧
      c'.steps ≤ c.steps +
        1031 * Fallback.scanned (Spec.leftmost hay.toArray needle.toArray) hay.len +
        24 * needle.len + 2257 :=
  Cost.builder_find cfg FinderBuilder.new Pair.defaultRank needle hay hn hh c

/-- **The one-shot `memmem::find(haystack, needle)`** (Rabin-Karp below the one-shot threshold,
`Finder::new` + `find` otherwise), every configuration, valid needle and haystack: the leftmost
occurrence in at most `1031 * scanned + 24 * needle.len() + 2257` steps. -/
theorem oneshot_find_cost (cfg : Api.Cfg) (needle hay : Slice) (hn : needle.Valid)
    (hh : hay.Valid) (c : Ctr) :
    ∃ c', Memmem.find cfg hay needle c = .ok (Spec.leftmost hay.toArray needle.toArray) c' ∧
      c'.steps ≤ c.steps +
        1031 * Fallback.scanned (Spec.leftmost hay.toArray needle.toArray) hay.len +
        24 * needle.len + 2257 :=
  Cost.oneshot_find cfg needle hay hn hh c

/-- **The one-shot `memmem::rfind(haystack, needle)`**, likewise: the rightmost occurrence in at
most `3 * scannedRev + 24 * needle.len() + 194` steps. -/
theorem oneshot_rfind_cost (cfg : Api.Cfg) (needle hay : Slice) (hn : needle.Valid)
    (hh : hay.Valid) (c : Ctr) :
    ∃ c', Memmem.rfind cfg hay needle c = .ok (Spec.rightmost hay.toArray needle.toArray) c' ∧
      c'.steps ≤ c.steps +
        3 * Api.scannedRev (Spec.rightmost hay.toArray needle.toArray) hay.len +
        24 * needle.len + 194 :=
  Cost.oneshot_rfind cfg needle hay hn hh c

/-! ### complete iterator traversals -/

/-- **A complete `find_iter` traversal.**  Build a finder with any builder `b` (prefilter setting)
and ranker in any configuration, then call `next()` `k` times on `finder.find_iter(haystack)`, for
every `k` up to `matches + 1` (`matches` = length of the greedy non-overlapping match sequence; `k
= matches + 1` is the complete traversal: all matches and the first `None`), every valid needle
and haystack, heap and counter state: the observations are the first `k` entries of the greedy
match sequence (then `None`), and the whole run - construction and all restarts included - costs
at most `2079 * haystack.len + 24 * needle.len + 2000 * k + 3305` steps. -/
theorem find_iter_total_cost (cfg : Api.Cfg) (b : FinderBuilder) (rank : UInt8 → UInt8)
    (needle hay : Slice) (hn : needle.Valid) (hh : hay.Valid) (k : Nat)
    (hk : k ≤ (Spec.greedyFwd hay.toArray needle.toArray).length + 1) (h : Heap) (c : Ctr) :
    ∃ it' h' c', (b.buildForwardWithRanker cfg rank needle >>= fun f =>
        FindIter.run cfg (List.replicate k .next) (f.findIter hay) h) c =
        .ok ((List.range k).map
          (fun i => Out.idx ((Spec.greedyFwd hay.toArray needle.toArray)[i]?)), it', h') c' ∧
      c'.steps ≤ c.steps + 2079 * hay.len + 24 * needle.len + 2000 * k + 3305 :=
  Cost.find_iter_total cfg b rank needle hay hn hh k hk h c

/-- **A complete `rfind_iter` traversal.**  `FinderRev::new(needle)`, then `k` calls of `next()`
on `finder.rfind_iter(haystack)` for every `k` up to the number of reverse greedy matches plus
one: the observations are the first `k` entries of the reverse greedy match sequence (then
`None`), and the whole run - construction included - costs at most
`23 * haystack.len + 24 * needle.len + 192 * k + 194` steps. -/
theorem rfind_iter_total_cost (cfg : Api.Cfg) (needle hay : Slice) (hn : needle.Valid)
    (hh : hay.Valid) (k : Nat)
    (hk : k ≤ (Spec.greedyRev hay.toArray needle.toArray).length + 1) (h : Heap) (c : Ctr) :
    ∃ it' h' c', (FinderRev.new needle >>= fun f =>
        FindRevIter.run cfg (List.replicate k .next) (f.rfindIter hay) h) c =
        .ok ((List.range k).map
          (fun i => Out.idx ((Spec.greedyRev hay.toArray needle.toArray)[i]?)), it', h') c' ∧
      c'.steps ≤ c.steps + 23 * hay.len + 24 * needle.len + 192 * k + 194 :=
  Cost.rfind_iter_total cfg needle hay hn hh k hk h c

/-! ### the headline -/

/-- the number of matches `find_iter` reports is at most `haystack.len() + 1` (attained by the
empty needle), for every needle and every valid haystack; so the `matches` term of `linear_work`
is itself linear in the haystack length -/
theorem match_count_le (needle hay : Slice) (hh : hay.Valid) :
    (Spec.greedyFwd hay.toArray needle.toArray).length ≤ hay.len + 1 :=
  Slice.toArray_size hh ▸ Spec.greedyFwd_length_le hay.toArray needle.toArray

/-- **C13, linear work.**  There are explicit constants `A = 2079` and `B = 5305`, chosen before
and independently of everything else, such that for EVERY build + CPU configuration `cfg`, every
builder `b` (prefilter setting `none` / `auto`), every ranker, every valid needle and every valid
haystack (no side condition: periodic needles, `a^m` in `(a^(m-1) b)^r`, two rare bytes recurring
at every position, a candidate-free prefix followed by dense false candidates, ...), with
`matchCount` = the number of non-overlapping matches `find_iter` reports
(`(Spec.greedyFwd ..).length`) and

  `budget = A * (haystack.len + needle.len) + B * (matchCount + 1)`,

from every heap and counter state each of the following returns normally, with exactly the
specified result, having ticked the step counter at most `budget` times, construction included:
1. `b.build_forward_with_ranker(ranker, needle)` then `find(haystack)`: the leftmost occurrence;
2. `FinderRev::new(needle)` then `rfind(haystack)`: the rightmost occurrence;
3. the one-shot `memmem::find(haystack, needle)`;
4. the one-shot `memmem::rfind(haystack, needle)`;
5. build a finder, then `k` calls of `next()` on `find_iter(haystack)`, for every `k` up to
   `matchCount + 1` (the complete traversal: every match, then the first `None`);
6. `FinderRev::new(needle)`, then `k` calls of `next()` on `rfind_iter(haystack)`, for every `k`
   up to the number of matches `rfind_iter` reports plus one (the complete reverse traversal).
A step is a tick of the model counter, placed where hook H2 ticks in the Rust (see the file
header).  For a non-empty needle `matchCount <= haystack.len / needle.len`, and always
`matchCount <= haystack.len + 1` (`Spec.greedyFwd_length_le_div`, `match_count_le`), so
`budget <= (A + B) * (haystack.len + needle.len) + 2 * B`: no input family makes the work
quadratic. -/
theorem linear_work :
    ∃ A B : Nat, A = 2079 ∧ B = 5305 ∧
      ∀ (cfg : Api.Cfg) (b : FinderBuilder) (rank : UInt8 → UInt8) (needle hay : Slice),
        needle.Valid → hay.Valid →
      ∀ (matchCount budget : Nat),
        matchCount = (Spec.greedyFwd hay.toArray needle.toArray).length →
        budget = A * (hay.len + needle.len) + B * (matchCount + 1) →
      ∀ (h : Heap) (c : Ctr),
        (∃ c', (b.buildForwardWithRanker cfg rank needle >>= fun f => f.find cfg hay) c =
            .ok (Spec.leftmost hay.toArray needle.toArray) c' ∧
          c'.steps ≤ c.steps + budget) ∧
        (∃ c', (FinderRev.new needle >>= fun f => f.rfind cfg hay) c =
            .ok (Spec.rightmost hay.toArray needle.toArray) c' ∧
          c'.steps ≤ c.steps + budget) ∧
        (∃ c', Memmem.find cfg hay needle c =
            .ok (Spec.leftmost hay.toArray needle.toArray) c' ∧
          c'.steps ≤ c.steps + budget) ∧
        (∃ c', Memmem.rfind cfg hay needle c =
            .ok (Spec.rightmost hay.toArray needle.toArray) c' ∧
          c'.steps ≤ c.steps + budget) ∧
        (∀ k, k ≤ matchCount + 1 →
          ∃ it' h' c', (b.buildForwardWithRanker cfg rank needle >>= fun f =>
              FindIter.run cfg (List.replicate k .next) (f.findIter hay) h) c =
              .ok ((List.range k).map
                (fun i => Out.idx ((Spec.greedyFwd hay.toArray needle.toArray)[i]?)), it', h') c' ∧
            c'.steps ≤ c.steps + budget) ∧
        (∀ k, k ≤ (Spec.greedyRev hay.toArray needle.toArray).length + 1 →
          ∃ it' h' c', (FinderRev.new needle >>= fun f =>
              FindRevIter.run cfg (List.replicate k .next) (f.rfindIter hay) h) c =
              .ok ((List.range k).map
                (fun i => Out.idx ((Spec.greedyRev hay.toArray needle.toArray)[i]?)), it', h') c' ∧
            c'.steps ≤ c.steps + budget) :=
  Bridge4.linear_work

/-- the hypotheses of `linear_work` are satisfiable by a non-trivial input: the periodic needle
"abaab" and the haystack "abaaabaabab" are valid slices, the needle occurs (leftmost at offset 4),
`matchCount = 1`, and the budget for this input is `2079 * (11 + 5) + 5305 * 2 = 43874` -/
example : Cost.exNeedle.Valid ∧ Cost.exHay.Valid ∧
    Spec.leftmost Cost.exHay.toArray Cost.exNeedle.toArray = some 4 ∧
    (1 : Nat) = (Spec.greedyFwd Cost.exHay.toArray Cost.exNeedle.toArray).length ∧
    (43874 : Nat) = 2079 * (Cost.exHay.len + Cost.exNeedle.len) + 5305 * (1 + 1) :=
  ⟨Cost.exNeedle_valid, Cost.exHay_valid, by decide, by decide, by decide⟩

end Full

end Memchr.Props.C13

#print axioms Memchr.Props.C13.maxlen_bounded
#print axioms Memchr.Props.C13.rk_fast_threshold_bounded
#print axioms Memchr.Props.C13.oneshot_thresholds_bounded
#print axioms Memchr.Props.C13.pair_scan_bounded
#print axioms Memchr.Props.C13.is_equal_raw_cost
#print axioms Memchr.Props.C13.rabinkarp_find_cost
#print axioms Memchr.Props.C13.rabinkarp_rfind_cost
#print axioms Memchr.Props.C13.rabinkarp_find_cost_short_haystack
#print axioms Memchr.Props.C13.rabinkarp_rfind_cost_short_haystack
#print axioms Memchr.Props.C13.packedpair_find_cost
#print axioms Memchr.Props.C13.packedpair_find_cost_linear
#print axioms Memchr.Props.C13.packedpair_find_foreign_cost
#print axioms Memchr.Props.C13.packedpair_prefilter_cost
#print axioms Memchr.Props.C13.packedpair_find_cost_avx2
#print axioms Memchr.Props.C13.fallback_prefilter_cost
#print axioms Memchr.Props.C13.pair_with_ranker_cost
#print axioms Memchr.Props.C13.twoway_find_cost
#print axioms Memchr.Props.C13.twoway_rfind_cost
#print axioms Memchr.Props.C13.twoway_new_cost
#print axioms Memchr.Props.C13.twoway_rev_new_cost
#print axioms Memchr.Props.C13.twoway_search_cost
#print axioms Memchr.Props.C13.twoway_rsearch_cost
#print axioms Memchr.Props.C13.memchr_cost
#print axioms Memchr.Props.C13.memrchr_cost
#print axioms Memchr.Props.C13.prefilter_cost
#print axioms Memchr.Props.C13.twoway_pre_cost
#print axioms Memchr.Props.C13.searcher_new_cost
#print axioms Memchr.Props.C13.searcher_find_cost
#print axioms Memchr.Props.C13.searcher_rev_new_cost
#print axioms Memchr.Props.C13.searcher_rfind_cost
#print axioms Memchr.Props.C13.finder_find_cost
#print axioms Memchr.Props.C13.oneshot_find_cost
#print axioms Memchr.Props.C13.oneshot_rfind_cost
#print axioms Memchr.Props.C13.find_iter_total_cost
#print axioms Memchr.Props.C13.rfind_iter_total_cost
#print axioms Memchr.Props.C13.match_count_le
#print axioms Memchr.Props.C13.linear_work
