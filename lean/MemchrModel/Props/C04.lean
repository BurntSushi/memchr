/-
C04  Reverse substring search returns exactly the rightmost occurrence.

For every haystack and needle, `memmem::rfind` and `FinderRev::rfind` return `Some(i)` where `i`
is the largest offset with `haystack[i..i + needle.len()] == needle`, and `None` exactly when the
needle does not occur.  The empty needle matches at offset `haystack.len()`.

How the clauses of the property map onto this file

  what "the rightmost occurrence" means (the specification       `spec_some_iff`, `spec_none_iff`,
    `Spec.rightmost`: `Some(i)` iff the needle occurs at `i`       `spec_empty`
    and at no larger offset; `None` iff it occurs nowhere)
  the reverse meta searcher `SearcherRev::new(needle)` +          `rfind_all` (every branch),
    `rfind(haystack, needle)` of `src/memmem/searcher.rs`         `rfind` (needles of at most one
                                                                   byte, on their own)
  `FinderRev::new(needle).rfind(haystack)`                        `finder_rfind_all`
  the one-shot `memmem::rfind(haystack, needle)`                  `oneshot_all`
  the empty needle                                                `rfind_empty`, `oneshot_empty`
  the reverse Two-Way searcher behind every needle of two or      `twoway_rfind_correct`
    more bytes

The reverse searcher has no prefilter and no prefilter state; the configuration `cfg` only
selects the backend of the `memrchr` used for one-byte needles.

A conclusion `run = .ok v c'` says the run returns normally with the value `v`: no panic, debug
assertion, overflow, out-of-bounds read, misaligned load or out-of-allocation pointer.  The only
hypotheses are `needle.Valid` and `hay.Valid` ("the slice lies inside its memory region").

Only statements, short proofs from the master lemmas (`Proofs/Searcher.lean`,
`Proofs/MemmemFinder.lean`, `Proofs/TwoWayRevCert.lean`), non-vacuity examples and `#print axioms`.
-/
import MemchrModel.Proofs.MemmemFinder

namespace Memchr.Props.C04

open Memchr.Memmem

/-! ### what the specification `Spec.rightmost` means -/

/-- `Spec.rightmost hay needle = Some(r)` exactly when the needle occurs at offset `r`
(`OccAt`: `r + needle.len() <= hay.len()` and `hay[r + k] = needle[k]` for every
`k < needle.len()`) and at no offset `j > r`: `r` is the LARGEST offset of an occurrence. -/
theorem spec_some_iff (hay needle : Array UInt8) (r : Nat) :
    Spec.rightmost hay needle = some r ↔
      Spec.OccAt hay needle r ∧ ∀ j, r < j → ¬ Spec.OccAt hay needle j :=
  Spec.rightmost_eq_some_iff hay needle r

/-- `Spec.rightmost hay needle = None` exactly when the needle occurs at NO offset. -/
theorem spec_none_iff (hay needle : Array UInt8) :
    Spec.rightmost hay needle = none ↔ ∀ j, ¬ Spec.OccAt hay needle j :=
  Spec.rightmost_eq_none_iff hay needle

/-- For the empty needle the specification is `Some(hay.len())`, for every haystack. -/
theorem spec_empty (hay needle : Array UInt8) (h : needle.size = 0) :
    Spec.rightmost hay needle = some hay.size :=
  Spec.rightmost_empty h

/-! ### the reverse meta searcher -/

/-- **`SearcherRev::new(needle)` then `SearcherRev::rfind(haystack, needle)`, every branch.**
For EVERY configuration, valid needle and haystack (all lengths: empty needle, one byte, two or
more bytes = reverse Two-Way, or Rabin-Karp when the haystack is shorter than 16 bytes; haystack
shorter than the needle) and every counter state: construction returns normally, and `rfind`
returns normally with exactly the rightmost occurrence (`Spec.rightmost`, see `spec_some_iff` /
`spec_none_iff`). -/
theorem rfind_all (cfg : Api.Cfg) (needle hay : Slice) (hn : needle.Valid) (hh : hay.Valid)
    (c : Ctr) :
    ∃ s c1, SearcherRev.new needle c = .ok s c1 ∧ ∀ c2, ∃ c3,
      s.rfind cfg hay needle c2 = .ok (Spec.rightmost hay.toArray needle.toArray) c3 :=
  Memmem.C04.rfind_all cfg needle hay hn hh c

/-- Needles of at most one byte (the empty needle; one byte = the dispatched `memrchr`), on
their own. Same conclusion as `rfind_all`, of which this is the special case: the proof does not
need `hbranch`. -/
theorem rfind (cfg : Api.Cfg) (needle hay : Slice) (hn : needle.Valid) (hh : hay.Valid)
    (hbranch : needle.len ≤ 1) (c : Ctr) :
    ∃ s c1, SearcherRev.new needle c = .ok s c1 ∧ ∀ c2, ∃ c3,
      s.rfind cfg hay needle c2 = .ok (Spec.rightmost hay.toArray needle.toArray) c3 :=
  Memmem.C04.rfind cfg needle hay hn hh hbranch c

/-- **The empty needle matches at offset `haystack.len()`**: for every configuration and every
valid haystack (the empty one included) the reverse searcher built for a zero-length needle
returns `Some(haystack.len())`. -/
theorem rfind_empty (cfg : Api.Cfg) (needle hay : Slice) (hn : needle.Valid) (hh : hay.Valid)
    (h0 : needle.len = 0) (c : Ctr) :
    ∃ s c1, SearcherRev.new needle c = .ok s c1 ∧ ∀ c2, ∃ c3,
      s.rfind cfg hay needle c2 = .ok (some hay.len) c3 := by
  have := rfind_all cfg needle hay hn hh c
  rwa [Spec.rightmost_empty (by rw [Slice.toArray_size hn]; exact h0),
    Slice.toArray_size hh] at this

/-! ### the public API: `FinderRev`, `memmem::rfind` -/

/-- **`FinderRev::new(needle).rfind(haystack)`** (also what `FinderBuilder::build_reverse`
gives), every configuration, valid needle and haystack: construction and search return normally
with exactly the rightmost occurrence. -/
theorem finder_rfind_all (cfg : Api.Cfg) (needle hay : Slice) (hn : needle.Valid)
    (hh : hay.Valid) (c : Ctr) :
    ∃ c', (FinderRev.new needle >>= fun f => f.rfind cfg hay) c =
      .ok (Spec.rightmost hay.toArray needle.toArray) c' :=
  Memmem.C04.finder_rfind_all cfg needle hay hn hh c

/-- **The one-shot `memmem::rfind(haystack, needle)`**, every configuration, valid needle and
haystack (haystacks shorter than 64 bytes go to reverse Rabin-Karp, longer ones to
`FinderRev::new(needle).rfind(haystack)`): returns normally with exactly the rightmost
occurrence. -/
theorem oneshot_all (cfg : Api.Cfg) (needle hay : Slice) (hn : needle.Valid) (hh : hay.Valid)
    (c : Ctr) :
    ∃ c', Memmem.rfind cfg hay needle c = .ok (Spec.rightmost hay.toArray needle.toArray) c' :=
  Memmem.C04.oneshot_all cfg needle hay hn hh c

/-- `memmem::rfind(haystack, b"")` is `Some(haystack.len())` for every valid haystack, the empty
one included. -/
theorem oneshot_empty (cfg : Api.Cfg) (needle hay : Slice) (hn : needle.Valid) (hh : hay.Valid)
    (h0 : needle.len = 0) (c : Ctr) :
    ∃ c', Memmem.rfind cfg hay needle c = .ok (some hay.len) c' := by
  have := oneshot_all cfg needle hay hn hh c
  rwa [Spec.rightmost_empty (by rw [Slice.toArray_size hn]; exact h0),
    Slice.toArray_size hh] at this

/-! ### reverse Two-Way, the searcher behind every needle of two or more bytes -/

/-- **`twoway::FinderRev::new(needle)` then `rfind(haystack, needle)`**, for every valid needle
and haystack (any lengths): construction and search return normally with exactly the rightmost
occurrence, within `3 * haystack.len + 8 * needle.len + 3` steps in total. -/
theorem twoway_rfind_correct (needle haystack : Slice) (c : Ctr) (hnv : needle.Valid)
    (hhv : haystack.Valid) :
    ∃ c', (TwoWay.FinderRev.new needle >>= fun tw => TwoWay.FinderRev.rfind tw haystack needle) c =
        .ok (Spec.rightmost haystack.toArray needle.toArray) c' ∧
      c'.steps ≤ c.steps + 3 * haystack.len + 8 * needle.len + 3 :=
  TwoWay.rfind_correct needle haystack c hnv hhv

/-! ### the hypotheses are satisfiable -/

/-- two valid non-trivial slices (sub-slices of larger regions at odd addresses): the needle
"abc" occurs twice in the haystack "xabcxabc" -/
example : (⟨⟨1, 1048577, #[0, 97, 98, 99, 0]⟩, 1, 3⟩ : Slice).Valid ∧
    (⟨⟨0, 4099, #[120, 120, 97, 98, 99, 120, 97, 98, 99, 120]⟩, 1, 8⟩ : Slice).Valid := by
  simp [Slice.Valid]

/-- a one-byte needle (side condition of `rfind`), the empty needle, the empty haystack and a
100-byte haystack are all valid slices -/
example : (Slice.ofMem ⟨1, 64, #[97]⟩).Valid ∧ (Slice.ofMem ⟨1, 64, #[97]⟩).len ≤ 1 ∧
    (Slice.ofMem ⟨1, 64, #[]⟩).Valid ∧ (Slice.ofMem ⟨1, 64, #[]⟩).len = 0 ∧
    (Slice.ofMem ⟨0, 4096, #[]⟩).Valid ∧ (Slice.ofMem ⟨0, 4096, Array.replicate 100 97⟩).Valid := by
  simp [Slice.Valid, Slice.ofMem]

end Memchr.Props.C04

#print axioms Memchr.Props.C04.spec_some_iff
#print axioms Memchr.Props.C04.spec_none_iff
#print axioms Memchr.Props.C04.spec_empty
#print axioms Memchr.Props.C04.rfind_all
#print axioms Memchr.Props.C04.rfind
#print axioms Memchr.Props.C04.rfind_empty
#print axioms Memchr.Props.C04.finder_rfind_all
#print axioms Memchr.Props.C04.oneshot_all
#print axioms Memchr.Props.C04.oneshot_empty
#print axioms Memchr.Props.C04.twoway_rfind_correct
