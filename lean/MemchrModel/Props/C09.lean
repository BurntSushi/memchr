/-
C09  Every backend and build configuration returns identical answers.

Only statements, short proofs from the master lemmas (`Proofs/MemchrApi.lean`,
`Proofs/MemchrApiIter.lean`, `Proofs/MemmemFinder.lean`, `Proofs/MemmemIter.lean`; the table of
`select` by unfolding it), non-vacuity examples and `#print axioms`.

A configuration `Api.Cfg` is: target architecture (`x86_64`, `aarch64`, `wasm32` with
`simd128`, anything else), the compile-time target features `sse2` / `avx2` / `neon`, the cargo
feature `std` (the only cargo feature the dispatch code looks at: `alloc` vs none makes no
difference to the byte-search routines), what run-time detection reports for AVX2, and the
verification hook that forces `is_available()` of AVX2 / SSE2 to false. `Api.select cfg` is the
backend the public routines run under that configuration (`C01.dispatch_runs_selected`).

Covered here:

  same value for any two configurations (forward / reverse,       `agree`, `agree_count`
    1-3 needles; count), the specified one
  same value for any two BACKENDS called directly (raw form)      `backends_agree`,
                                                                  `backends_agree_count`
  which backend each configuration selects                        `select_table` (concrete),
                                                                  `select_x86_avx2`, `.._sse2`,
                                                                  `.._swar`, `select_aarch64`,
                                                                  `select_wasm`, `select_other`
  the iterators of a configuration are those of the selected      `iterators_follow_select`
    backend (and all refine one abstract iterator: `Props/C06`)

  substring search (`src/memmem/searcher.rs`: which of packed     `agree_memmem_find`,
    pair / Two-Way with or without prefilter / Rabin-Karp serves  `agree_memmem_rfind`,
    a needle depends on the configuration): same value for any    `agree_finder_find`,
    two configurations - one-shot functions, finders, the meta    `agree_finder_rfind`,
    searcher from any prefilter state, both iterators             `agree_searcher_find`,
                                                                  `agree_searcher_rfind`,
                                                                  `agree_find_iter`,
                                                                  `agree_rfind_iter`
  which vector finder the meta searcher may use under each        `veckind_table`,
    configuration, and that it depends on nothing else            `searcher_new_eq_of_veckind`

(The cargo features `alloc` / none only remove `Finder::into_owned` and friends from the API; the
search code they leave is the code modelled here.)
-/
import MemchrModel.Proofs.MemchrApi
import MemchrModel.Proofs.MemchrApiIter
import MemchrModel.Proofs.MemmemIter

namespace Memchr.Props.C09

open Memchr.Api

/-! ### identical answers -/

/-- Any two build / CPU configurations `cfg1`, `cfg2` (any architecture, any compile-time
features, with or without `std`, whatever CPU detection reports, forced or not), called with the
same needles and the same valid haystack — `memchr`/`memchr2`/`memchr3` for `rev = false`,
`memrchr`/`memrchr2`/`memrchr3` for `rev = true` — both return normally, with the SAME value
`v`; `v` is the specified first / last needle index (`Api.specIdx`, see `C01.memchr_first`,
`C02.memrchr_last`), and when present it is `< hay.len`. The counters (steps, loads) may
differ: `c1'`, `c2'` are unrelated. -/
theorem agree (cfg1 cfg2 : Cfg) (ns : Needles) (rev : Bool) (hay : Slice)
    (hv : hay.Valid) (c1 c2 : Ctr) :
    ∃ v c1' c2', memchr cfg1 ns rev hay c1 = .ok v c1' ∧ memchr cfg2 ns rev hay c2 = .ok v c2' ∧
      v = specIdx ns rev hay ∧ ∀ i, v = some i → i < hay.len := by
  obtain ⟨c1', h1⟩ := memchr_correct cfg1 ns rev hay hv c1
  obtain ⟨c2', h2⟩ := memchr_correct cfg2 ns rev hay hv c2
  exact ⟨_, c1', c2', h1, h2, rfl, fun i hi => specIdx_lt hi⟩

/-- The same for `memchr_iter(n1, hay).count()`: any two configurations return the same number,
the number of haystack bytes equal to the needle. -/
theorem agree_count (cfg1 cfg2 : Cfg) (n1 : UInt8) (hay : Slice)
    (hv : hay.Valid) (c1 c2 : Ctr) :
    ∃ v c1' c2', count cfg1 n1 hay c1 = .ok v c1' ∧ count cfg2 n1 hay c2 = .ok v c2' ∧
      v = Spec.countP (· == n1) (hay.mem.window hay.ptr hay.len) := by
  obtain ⟨c1', h1⟩ := count_correct cfg1 n1 hay hv c1
  obtain ⟨c2', h2⟩ := count_correct cfg2 n1 hay hv c2
  exact ⟨_, c1', c2', h1, h2, rfl⟩

/-- a valid, non-trivial slice: bytes 3..13 of a 40-byte region at an odd address -/
example : (⟨⟨0, 1001, Array.replicate 40 0⟩, 3, 10⟩ : Slice).Valid := by
  simp [Slice.Valid]

/-- Any two BACKENDS (SWAR, SSE2, AVX2, NEON, wasm simd128) called directly through their
`One`/`Two`/`Three::{find_raw, rfind_raw}` on the same window inside a region (any `start`,
`end`, including empty, reversed and sub-vector windows) return the same value. -/
theorem backends_agree (b1 b2 : Backend) (ns : Needles) (rev : Bool) (m : Mem)
    (start end_ : Nat) (c1 c2 : Ctr) (hs : m.base ≤ start) (he : end_ ≤ m.base + m.bytes.size) :
    ∃ v c1' c2', rawFind b1 ns rev m start end_ c1 = .ok v c1' ∧
      rawFind b2 ns rev m start end_ c2 = .ok v c2' :=
  let ⟨c1', h1⟩ := rawFind_correct b1 ns rev m start end_ c1 hs he
  let ⟨c2', h2⟩ := rawFind_correct b2 ns rev m start end_ c2 hs he
  ⟨_, c1', c2', h1, h2⟩

/-- the same for `One::count_raw` -/
theorem backends_agree_count (b1 b2 : Backend) (n1 : UInt8) (m : Mem)
    (start end_ : Nat) (c1 c2 : Ctr) (hs : m.base ≤ start) (he : end_ ≤ m.base + m.bytes.size) :
    ∃ v c1' c2', rawCount b1 n1 m start end_ c1 = .ok v c1' ∧
      rawCount b2 n1 m start end_ c2 = .ok v c2' :=
  let ⟨c1', h1⟩ := rawCount_correct b1 n1 m start end_ c1 hs he
  let ⟨c2', h2⟩ := rawCount_correct b2 n1 m start end_ c2 hs he
  ⟨_, c1', c2', h1, h2⟩

/-- hypotheses are satisfiable: a 40-byte region at an odd base address, a 5-byte window -/
example : ∃ (m : Mem) (start end_ : Nat), m.base ≤ start ∧ end_ ≤ m.base + m.bytes.size ∧
    start < end_ :=
  ⟨⟨0, 1001, Array.replicate 40 0⟩, 1003, 1008, by decide, by simp, by decide⟩

/-- The public iterators `Memchr`/`Memchr2`/`Memchr3` of a configuration are literally the
wrapper iterators of the backend `select` picks; by `C06.refines_backend` all of them produce
the outputs of one and the same abstract iterator. -/
theorem iterators_follow_select (cfg : Cfg) (ns : Needles) (m : Mem) :
    RawFns.ofCfg cfg ns m = RawFns.ofBackend (select cfg) ns m :=
  Api.ofCfg_eq_ofBackend cfg ns m

/-! ### which backend serves which configuration -/

/-- The value of `select` on representative configurations (`force` left at its default
`.none` unless shown):
1. x86_64, sse2 at compile time, `std`, CPU has AVX2                    -> AVX2
2. x86_64, sse2, `std`, CPU without AVX2                                -> SSE2
3. x86_64, sse2, no `std` (no run-time detection), no compile-time avx2 -> SSE2 (even if the CPU
   has AVX2)
4. x86_64, sse2 + avx2 at compile time, no `std`                        -> AVX2
5. x86_64 without sse2 at compile time (e.g. a soft-float target)       -> SWAR
6. aarch64 with neon                                                    -> NEON
7. aarch64 without neon                                                 -> SWAR
8. wasm32 with simd128                                                  -> simd128
9. any other architecture (features irrelevant)                         -> SWAR
10. case 1 with the hook forcing AVX2 unavailable                       -> SSE2
11. case 1 with the hook forcing SSE2 (and AVX2) unavailable            -> SWAR -/
theorem select_table :
    select { arch := .x86_64, ctSse2 := true, ctAvx2 := false, ctNeon := false,
             std := true, cpuAvx2 := true } = .avx2 ∧
    select { arch := .x86_64, ctSse2 := true, ctAvx2 := false, ctNeon := false,
             std := true, cpuAvx2 := false } = .sse2 ∧
    select { arch := .x86_64, ctSse2 := true, ctAvx2 := false, ctNeon := false,
             std := false, cpuAvx2 := true } = .sse2 ∧
    select { arch := .x86_64, ctSse2 := true, ctAvx2 := true, ctNeon := false,
             std := false, cpuAvx2 := false } = .avx2 ∧
    select { arch := .x86_64, ctSse2 := false, ctAvx2 := false, ctNeon := false,
             std := true, cpuAvx2 := true } = .swar ∧
    select { arch := .aarch64, ctSse2 := false, ctAvx2 := false, ctNeon := true,
             std := true, cpuAvx2 := false } = .neon ∧
    select { arch := .aarch64, ctSse2 := false, ctAvx2 := false, ctNeon := false,
             std := true, cpuAvx2 := false } = .swar ∧
    select { arch := .wasm32simd128, ctSse2 := false, ctAvx2 := false, ctNeon := false,
             std := true, cpuAvx2 := false } = .simd128 ∧
    select { arch := .other, ctSse2 := true, ctAvx2 := true, ctNeon := true,
             std := true, cpuAvx2 := true } = .swar ∧
    select { arch := .x86_64, ctSse2 := true, ctAvx2 := false, ctNeon := false,
             std := true, cpuAvx2 := true, force := .noavx2 } = .sse2 ∧
    select { arch := .x86_64, ctSse2 := true, ctAvx2 := false, ctNeon := false,
             std := true, cpuAvx2 := true, force := .nosse2 } = .swar := by
  decide

/-- x86_64 in general: AVX2 is selected whenever sse2 is a compile-time feature, nothing is
forced, and AVX2 is either a compile-time feature or (`std` and the CPU reports it). -/
theorem select_x86_avx2 (cfg : Cfg) (ha : cfg.arch = .x86_64) (hs : cfg.ctSse2 = true)
    (hf : cfg.force = .none) (h : cfg.ctAvx2 = true ∨ (cfg.std = true ∧ cfg.cpuAvx2 = true)) :
    select cfg = .avx2 := by
  rcases h with h | ⟨h1, h2⟩ <;>
    simp [select, x86Detect, avx2Available, Cfg.forcedNoAvx2, *]

/-- x86_64 in general: SSE2 is selected when sse2 is a compile-time feature, SSE2 is not forced
off, and AVX2 is unavailable: forced off, or not a compile-time feature and not detectable (no
`std`) or not present. -/
theorem select_x86_sse2 (cfg : Cfg) (ha : cfg.arch = .x86_64) (hs : cfg.ctSse2 = true)
    (hf : cfg.force ≠ .nosse2)
    (h : cfg.force = .noavx2 ∨
      (cfg.ctAvx2 = false ∧ (cfg.std = false ∨ cfg.cpuAvx2 = false))) :
    select cfg = .sse2 := by
  rcases h with h | ⟨h1, h2 | h2⟩ <;>
    simp [select, x86Detect, avx2Available, sse2Available, Cfg.forcedNoAvx2, Cfg.forcedNoSse2, *]

/-- x86_64 in general: the portable SWAR code is selected when sse2 is not a compile-time
feature or SSE2 is forced off. (The three x86_64 theorems are exhaustive.) -/
theorem select_x86_swar (cfg : Cfg) (ha : cfg.arch = .x86_64)
    (h : cfg.ctSse2 = false ∨ cfg.force = .nosse2) : select cfg = .swar := by
  rcases h with h | h
  · simp [select, x86Detect, ha, h]
  · cases hs : cfg.ctSse2 <;>
      simp [select, x86Detect, avx2Available, sse2Available, Cfg.forcedNoAvx2, Cfg.forcedNoSse2,
        ha, hs, h]

/-- aarch64: NEON iff `neon` is a compile-time feature, else SWAR (no run-time detection) -/
theorem select_aarch64 (cfg : Cfg) (ha : cfg.arch = .aarch64) :
    select cfg = if cfg.ctNeon then .neon else .swar := by
  simp [select, ha]

/-- wasm32 with `simd128`: always simd128 -/
theorem select_wasm (cfg : Cfg) (ha : cfg.arch = .wasm32simd128) : select cfg = .simd128 := by
  simp [select, ha]

/-- every other architecture (including wasm32 without `simd128`): always SWAR -/
theorem select_other (cfg : Cfg) (ha : cfg.arch = .other) : select cfg = .swar := by
  simp [select, ha]

/-- the side conditions of the general x86_64 theorems are satisfiable and every backend is
selected by some configuration (`select` is onto) -/
example : ∀ b : Backend, ∃ cfg : Cfg, select cfg = b := by
  intro b
  cases b
  · exact ⟨{ arch := .x86_64, ctSse2 := true, ctAvx2 := true, ctNeon := false, std := false, cpuAvx2 := false }, by decide⟩
  · exact ⟨{ arch := .x86_64, ctSse2 := true, ctAvx2 := false, ctNeon := false, std := false, cpuAvx2 := false }, by decide⟩
  · exact ⟨{ arch := .aarch64, ctSse2 := false, ctAvx2 := false, ctNeon := true, std := false, cpuAvx2 := false }, by decide⟩
  · exact ⟨{ arch := .wasm32simd128, ctSse2 := false, ctAvx2 := false, ctNeon := false, std := false, cpuAvx2 := false }, by decide⟩
  · exact ⟨{ arch := .other, ctSse2 := false, ctAvx2 := false, ctNeon := false, std := false, cpuAvx2 := false }, by decide⟩

/-! ### substring search: identical answers under every configuration

In `src/memmem/searcher.rs` the configuration decides which strategy serves a needle (a vector
packed-pair searcher of the selected ISA, Two-Way with a vector or the portable prefilter,
plain Two-Way, Rabin-Karp for short haystacks) and which `memchr` backend one-byte needles use.
`Memmem.vecKind cfg` is the summary of the `cfg` chain + `is_available()`. -/

/-- **`memmem::find(haystack, needle)`**: any two configurations, the same valid needle and
haystack: both calls return normally with the SAME value `v`, the leftmost occurrence
(`Spec.leftmost`, see `Props/C03`). The counters may differ. -/
theorem agree_memmem_find (cfg1 cfg2 : Cfg) (needle hay : Slice) (hn : needle.Valid)
    (hh : hay.Valid) (c1 c2 : Ctr) :
    ∃ v c1' c2', Memmem.find cfg1 hay needle c1 = .ok v c1' ∧
      Memmem.find cfg2 hay needle c2 = .ok v c2' ∧
      v = Spec.leftmost hay.toArray needle.toArray :=
  let ⟨c1', h1⟩ := Memmem.C03.oneshot_all cfg1 needle hay hn hh c1
  let ⟨c2', h2⟩ := Memmem.C03.oneshot_all cfg2 needle hay hn hh c2
  ⟨_, c1', c2', h1, h2, rfl⟩

/-- **`memmem::rfind(haystack, needle)`**: likewise, the rightmost occurrence (`Props/C04`). -/
theorem agree_memmem_rfind (cfg1 cfg2 : Cfg) (needle hay : Slice) (hn : needle.Valid)
    (hh : hay.Valid) (c1 c2 : Ctr) :
    ∃ v c1' c2', Memmem.rfind cfg1 hay needle c1 = .ok v c1' ∧
      Memmem.rfind cfg2 hay needle c2 = .ok v c2' ∧
      v = Spec.rightmost hay.toArray needle.toArray :=
  let ⟨c1', h1⟩ := Memmem.C04.oneshot_all cfg1 needle hay hn hh c1
  let ⟨c2', h2⟩ := Memmem.C04.oneshot_all cfg2 needle hay hn hh c2
  ⟨_, c1', c2', h1, h2, rfl⟩

/-- **`FinderBuilder` / `Finder::new` + `find`**: the same builder `b` and ranker under any two
configurations (so possibly two different strategies): `find(haystack)` returns the same value,
for every valid needle and haystack. -/
theorem agree_finder_find (cfg1 cfg2 : Cfg) (b : Memmem.FinderBuilder) (rank : UInt8 → UInt8)
    (needle hay : Slice) (hn : needle.Valid) (hh : hay.Valid) (c1 c2 : Ctr) :
    ∃ v c1' c2', (b.buildForwardWithRanker cfg1 rank needle >>= fun f => f.find cfg1 hay) c1 =
        .ok v c1' ∧
      (b.buildForwardWithRanker cfg2 rank needle >>= fun f => f.find cfg2 hay) c2 = .ok v c2' :=
  Memmem.C10.builder_indep_all cfg1 cfg2 b b rank rank needle hay hn hh c1 c2

/-- **`FinderRev::new(needle).rfind(haystack)`** under any two configurations: the same value,
the rightmost occurrence. -/
theorem agree_finder_rfind (cfg1 cfg2 : Cfg) (needle hay : Slice) (hn : needle.Valid)
    (hh : hay.Valid) (c1 c2 : Ctr) :
    ∃ v c1' c2', (Memmem.FinderRev.new needle >>= fun f => f.rfind cfg1 hay) c1 = .ok v c1' ∧
      (Memmem.FinderRev.new needle >>= fun f => f.rfind cfg2 hay) c2 = .ok v c2' ∧
      v = Spec.rightmost hay.toArray needle.toArray :=
  let ⟨c1', h1⟩ := Memmem.C04.finder_rfind_all cfg1 needle hay hn hh c1
  let ⟨c2', h2⟩ := Memmem.C04.finder_rfind_all cfg2 needle hay hn hh c2
  ⟨_, c1', c2', h1, h2, rfl⟩

/-- **The meta searcher `Searcher::new(..).find(..)`** with the same prefilter setting, ranker
and initial prefilter state under any two configurations: both constructions return normally and
the two searches return the same value `v` (instance of `C10.find_indep_all`, which also lets
the prefilter setting, ranker and state differ). -/
theorem agree_searcher_find (cfg1 cfg2 : Cfg) (pf : Memmem.PrefilterConfig)
    (rank : UInt8 → UInt8) (needle hay : Slice) (hn : needle.Valid) (hh : hay.Valid)
    (st : PrefilterState) (c1 c2 : Ctr) :
    ∃ s s' c1' c2', Memmem.Searcher.new cfg1 pf rank needle c1 = .ok s c1' ∧
      Memmem.Searcher.new cfg2 pf rank needle c2 = .ok s' c2' ∧
      ∀ d1 d2, ∃ v t t' d1' d2', s.find cfg1 st hay needle d1 = .ok (v, t) d1' ∧
        s'.find cfg2 st hay needle d2 = .ok (v, t') d2' :=
  Memmem.C10.find_indep_all cfg1 cfg2 pf pf rank rank needle hay hn hh st st c1 c2

/-- **The reverse meta searcher `SearcherRev::new(needle).rfind(..)`**: construction does not
look at the configuration at all, and `rfind` under EVERY configuration returns the rightmost
occurrence - hence the same value under any two. -/
theorem agree_searcher_rfind (needle hay : Slice) (hn : needle.Valid) (hh : hay.Valid)
    (c : Ctr) :
    ∃ s c1, Memmem.SearcherRev.new needle c = .ok s c1 ∧ ∀ (cfg : Cfg) (c2 : Ctr), ∃ c3,
      s.rfind cfg hay needle c2 = .ok (Spec.rightmost hay.toArray needle.toArray) c3 :=
  let ⟨s, c1, h, hg⟩ := Memmem.SearcherRev.new_ok needle hn c
  ⟨s, c1, h, fun cfg c2 => Memmem.SearcherRev.rfind_good cfg hg hay hh hn c2⟩

/-- **`find_iter`** under any two configurations: `k` calls of `next()` return the same list of
results (the first `k` entries of the greedy sequence `Spec.greedyFwd`, then `None`s; see
`Props/C08`), for every `k`. -/
theorem agree_find_iter (cfg1 cfg2 : Cfg) (b : Memmem.FinderBuilder) (rank : UInt8 → UInt8)
    (needle hay : Slice) (hn : needle.Valid) (hh : hay.Valid) (k : Nat) (h1 h2 : Memmem.Heap)
    (c1 c2 : Ctr) :
    ∃ outs it1 h1' c1' it2 h2' c2', (b.buildForwardWithRanker cfg1 rank needle >>= fun f =>
        Memmem.FindIter.run cfg1 (List.replicate k .next) (f.findIter hay) h1) c1 =
        .ok (outs, it1, h1') c1' ∧
      (b.buildForwardWithRanker cfg2 rank needle >>= fun f =>
        Memmem.FindIter.run cfg2 (List.replicate k .next) (f.findIter hay) h2) c2 =
        .ok (outs, it2, h2') c2' :=
  let ⟨it1, h1', c1', e1, _⟩ := Memmem.C08.find_iter_all cfg1 b rank needle hay hn hh k h1 c1
  let ⟨it2, h2', c2', e2, _⟩ := Memmem.C08.find_iter_all cfg2 b rank needle hay hn hh k h2 c2
  ⟨_, it1, h1', c1', it2, h2', c2', e1, e2⟩

/-- **`rfind_iter`** under any two configurations: likewise with `Spec.greedyRev`. -/
theorem agree_rfind_iter (cfg1 cfg2 : Cfg) (needle hay : Slice) (hn : needle.Valid)
    (hh : hay.Valid) (k : Nat) (h1 h2 : Memmem.Heap) (c1 c2 : Ctr) :
    ∃ outs it1 h1' c1' it2 h2' c2', (Memmem.FinderRev.new needle >>= fun f =>
        Memmem.FindRevIter.run cfg1 (List.replicate k .next) (f.rfindIter hay) h1) c1 =
        .ok (outs, it1, h1') c1' ∧
      (Memmem.FinderRev.new needle >>= fun f =>
        Memmem.FindRevIter.run cfg2 (List.replicate k .next) (f.rfindIter hay) h2) c2 =
        .ok (outs, it2, h2') c2' :=
  let ⟨it1, h1', c1', e1, _⟩ := Memmem.C08.rfind_iter_all cfg1 needle hay hn hh k h1 c1
  let ⟨it2, h2', c2', e2, _⟩ := Memmem.C08.rfind_iter_all cfg2 needle hay hn hh k h2 c2
  ⟨_, it1, h1', c1', it2, h2', c2', e1, e2⟩

/-- valid slices for the substring theorems: a 40-byte needle (served by Two-Way with a
prefilter or plain Two-Way depending on the configuration) and a 100-byte haystack -/
example : (Slice.ofMem ⟨1, 64, Array.replicate 40 97⟩).Valid ∧
    (Slice.ofMem ⟨0, 4096, Array.replicate 100 97⟩).Valid := by
  simp [Slice.Valid, Slice.ofMem]

/-- The vector packed-pair finder the meta searcher may use (`Memmem.vecKind`, the summary of
the `cfg` chain of `Searcher::new` and the `is_available()` functions) on the representative
configurations of `select_table` (same numbering): AVX2, SSE2, SSE2, AVX2, none, NEON, none,
simd128, none, SSE2 (AVX2 forced off), none (SSE2 forced off). `none` means: Two-Way with the
portable prefilter (or without prefilter) for every needle of two or more bytes. -/
theorem veckind_table :
    Memmem.vecKind { arch := .x86_64, ctSse2 := true, ctAvx2 := false, ctNeon := false,
                     std := true, cpuAvx2 := true } = some .avx2 ∧
    Memmem.vecKind { arch := .x86_64, ctSse2 := true, ctAvx2 := false, ctNeon := false,
                     std := true, cpuAvx2 := false } = some .sse2 ∧
    Memmem.vecKind { arch := .x86_64, ctSse2 := true, ctAvx2 := false, ctNeon := false,
                     std := false, cpuAvx2 := true } = some .sse2 ∧
    Memmem.vecKind { arch := .x86_64, ctSse2 := true, ctAvx2 := true, ctNeon := false,
                     std := false, cpuAvx2 := false } = some .avx2 ∧
    Memmem.vecKind { arch := .x86_64, ctSse2 := false, ctAvx2 := false, ctNeon := false,
                     std := true, cpuAvx2 := true } = none ∧
    Memmem.vecKind { arch := .aarch64, ctSse2 := false, ctAvx2 := false, ctNeon := true,
                     std := true, cpuAvx2 := false } = some .neon ∧
    Memmem.vecKind { arch := .aarch64, ctSse2 := false, ctAvx2 := false, ctNeon := false,
                     std := true, cpuAvx2 := false } = none ∧
    Memmem.vecKind { arch := .wasm32simd128, ctSse2 := false, ctAvx2 := false, ctNeon := false,
                     std := true, cpuAvx2 := false } = some .simd128 ∧
    Memmem.vecKind { arch := .other, ctSse2 := true, ctAvx2 := true, ctNeon := true,
                     std := true, cpuAvx2 := true } = none ∧
    Memmem.vecKind { arch := .x86_64, ctSse2 := true, ctAvx2 := false, ctNeon := false,
                     std := true, cpuAvx2 := true, force := .noavx2 } = some .sse2 ∧
    Memmem.vecKind { arch := .x86_64, ctSse2 := true, ctAvx2 := false, ctNeon := false,
                     std := true, cpuAvx2 := true, force := .nosse2 } = none := by
  decide

/-- `Searcher::new` depends on the configuration ONLY through `vecKind`: two configurations with
the same `vecKind` build literally the same searcher (same value, same steps, same faults), for
every prefilter setting, ranker and needle. -/
theorem searcher_new_eq_of_veckind (cfg cfg' : Cfg) (h : Memmem.vecKind cfg = Memmem.vecKind cfg')
    (pf : Memmem.PrefilterConfig) (rank : UInt8 → UInt8) (n : Slice) :
    Memmem.Searcher.new cfg pf rank n = Memmem.Searcher.new cfg' pf rank n :=
  Memmem.Searcher.new_eq_of_vecKind cfg cfg' h pf rank n

end Memchr.Props.C09

#print axioms Memchr.Props.C09.agree
#print axioms Memchr.Props.C09.agree_count
#print axioms Memchr.Props.C09.backends_agree
#print axioms Memchr.Props.C09.backends_agree_count
#print axioms Memchr.Props.C09.iterators_follow_select
#print axioms Memchr.Props.C09.select_table
#print axioms Memchr.Props.C09.select_x86_avx2
#print axioms Memchr.Props.C09.select_x86_sse2
#print axioms Memchr.Props.C09.select_x86_swar
#print axioms Memchr.Props.C09.select_aarch64
#print axioms Memchr.Props.C09.select_wasm
#print axioms Memchr.Props.C09.select_other
#print axioms Memchr.Props.C09.agree_memmem_find
#print axioms Memchr.Props.C09.agree_memmem_rfind
#print axioms Memchr.Props.C09.agree_finder_find
#print axioms Memchr.Props.C09.agree_finder_rfind
#print axioms Memchr.Props.C09.agree_searcher_find
#print axioms Memchr.Props.C09.agree_searcher_rfind
#print axioms Memchr.Props.C09.agree_find_iter
#print axioms Memchr.Props.C09.agree_rfind_iter
#print axioms Memchr.Props.C09.veckind_table
#print axioms Memchr.Props.C09.searcher_new_eq_of_veckind
