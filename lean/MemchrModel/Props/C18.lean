/-
C18  is_equal, is_prefix and is_suffix coincide with slice comparison.
-/
import MemchrModel.Proofs.IsEqual

namespace Memchr.Props.C18

/-- `is_equal_raw(x, y, n)` on two readable ranges (anywhere in memory, any alignment) returns
whether the ranges hold the same bytes; it never reads outside them and never faults. -/
theorem is_equal_raw (mx my : Mem) (x y n : Nat) (c : Ctr)
    (hx1 : mx.base ≤ x) (hx2 : x + n ≤ mx.base + mx.bytes.size)
    (hy1 : my.base ≤ y) (hy2 : y + n ≤ my.base + my.bytes.size) :
    ∃ c', IsEqual.isEqualRaw mx my x y n c = .ok (decide (mx.window x n = my.window y n)) c' ∧
      c'.steps ≤ c.steps + n / 4 + 2 :=
  IsEqual.isEqualRaw_correct mx my x y n c hx1 hx2 hy1 hy2

/-- `is_equal(x, y)` is true exactly when `x == y` (including the length guard). -/
theorem is_equal (x y : Slice) (c : Ctr) (hx : x.Valid) (hy : y.Valid) :
    ∃ c', IsEqual.isEqual x y c = .ok (decide (x.toList = y.toList)) c' ∧
      c'.steps ≤ c.steps + x.len / 4 + 2 :=
  IsEqual.isEqual_correct x y c hx hy

/-- `is_prefix(h, n)` is true exactly when `h.starts_with(n)`. -/
theorem is_prefix (h n : Slice) (c : Ctr) (hh : h.Valid) (hn : n.Valid) :
    ∃ c', IsEqual.isPrefix h n c = .ok (decide (n.toList <+: h.toList)) c' ∧
      c'.steps ≤ c.steps + n.len / 4 + 2 :=
  IsEqual.isPrefix_correct h n c hh hn

/-- `is_suffix(h, n)` is true exactly when `h.ends_with(n)`. -/
theorem is_suffix (h n : Slice) (c : Ctr) (hh : h.Valid) (hn : n.Valid) :
    ∃ c', IsEqual.isSuffix h n c = .ok (decide (n.toList <:+ h.toList)) c' ∧
      c'.steps ≤ c.steps + n.len / 4 + 2 :=
  IsEqual.isSuffix_correct h n c hh hn

/-- hypotheses are satisfiable: a 7-byte slice at offset 3 of a 12-byte region at an odd base -/
example : (⟨⟨0, 1001, Array.replicate 12 7⟩, 3, 7⟩ : Slice).Valid := by
  simp [Slice.Valid]

end Memchr.Props.C18

#print axioms Memchr.Props.C18.is_equal_raw
#print axioms Memchr.Props.C18.is_equal
#print axioms Memchr.Props.C18.is_prefix
#print axioms Memchr.Props.C18.is_suffix
