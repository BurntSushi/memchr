/-
C08  Substring iterators yield the greedy non-overlapping match sequence.

For every haystack and needle, `find_iter` yields exactly the offsets obtained by repeatedly
taking the leftmost occurrence and resuming right after its end, and `rfind_iter` yields the
mirror-image sequence from the right; for the empty needle they yield every offset
`0..=haystack.len()` exactly once (ascending resp. descending).  Both terminate, keep returning
`None` afterwards, and `find_iter`'s `size_hint` always brackets the number of matches still to
come.

How the clauses of the property map onto this file

  what the two reference sequences are, in plain terms          `greedy_fwd_unfold`,
    (`Spec.greedyFwd`, `Spec.greedyRev`: the unfolding equations   `next_fwd_some_iff`, `.._none_iff`,
    and what their inner searches mean)                            `greedy_rev_unfold`,
                                                                   `next_rev_some_iff`, `.._none_iff`
  the empty needle: every offset exactly once, ascending /       `greedy_fwd_empty`,
    descending                                                     `greedy_rev_empty`
  `find_iter` yields the forward sequence, then `None` forever   `find_iter_all`, `top_find_iter`
  `rfind_iter` yields the reverse sequence, then `None` forever  `rfind_iter_all`, `top_rfind_iter`
  both terminate: the sequences are finite                       `greedy_fwd_length`,
                                                                   `greedy_rev_length`
  `size_hint` brackets what is still to come, in every           `size_hint`, `size_hint_future`,
    reachable state of the iteration                               `reachable_good`

The iterators are run by the operation machines `FindIter.run` / `FindRevIter.run`
(`Model/Memmem.lean`): a list of operations (`next`, `size_hint`, `clone`, `into_owned`) is
applied to an iterator and the observations are collected; `List.replicate k .next` is "call
`next()` `k` times" and `Out.idx o` is the observation "`next()` returned `o`".  The theorems
hold for EVERY `k`, so for `i` beyond the length of the reference sequence the `i`-th call
returns `None` (`L[i]? = none`): the iterator is fused.

The only hypotheses are `needle.Valid` and `hay.Valid`.  Only statements, proofs of a few lines
from the master lemmas (`Spec/Greedy.lean`, `Proofs/MemmemIter.lean`, `Proofs/Memmem.lean`),
non-vacuity examples and `#print axioms`.
-/
import MemchrModel.Proofs.Memmem

namespace Memchr.Props.C08

open Memchr.Memmem

/-! ### the forward reference sequence `Spec.greedyFwd` in plain terms

`Spec.greedyFwd hay needle` is by definition `Spec.greedyFwdFrom hay needle 0 (hay.len() + 1)`:
the matches from position 0 on (the last argument is recursion fuel; `hay.len() + 1` always
suffices). -/

/-- **Unfolding equation, forward.** The matches from position `pos` on are: nothing, if the
inner search (next two theorems: the least occurrence at or after `pos`) finds none; otherwise
that occurrence `i` followed by the matches from position `i + max(1, needle.len())` on - right
after its end, or one further for the empty needle. -/
theorem greedy_fwd_unfold (hay needle : Array UInt8) (pos : Nat) :
    Spec.greedyFwdFrom hay needle pos (hay.size + 1) =
      match Spec.leftmostFrom hay needle pos (hay.size + 1 - pos) with
      | none => []
      | some i => i :: Spec.greedyFwdFrom hay needle (i + max 1 needle.size) (hay.size + 1) :=
  Spec.greedyFwdFrom_unfold hay needle pos

/-- The inner search of the forward sequence returns `Some(r)` exactly when `r >= pos`, the
needle occurs at `r`, and it occurs at no offset in `pos .. r`: the leftmost occurrence at or
after `pos`. -/
theorem next_fwd_some_iff (hay needle : Array UInt8) (pos r : Nat) :
    Spec.leftmostFrom hay needle pos (hay.size + 1 - pos) = some r ↔
      pos ≤ r ∧ Spec.OccAt hay needle r ∧ ∀ j, pos ≤ j → j < r → ¬ Spec.OccAt hay needle j :=
  Spec.leftmostFrom_pos_some_iff hay needle pos r

/-- ... and `None` exactly when no occurrence starts at or after `pos`. -/
theorem next_fwd_none_iff (hay needle : Array UInt8) (pos : Nat) :
    Spec.leftmostFrom hay needle pos (hay.size + 1 - pos) = none ↔
      ∀ j, pos ≤ j → ¬ Spec.OccAt hay needle j :=
  Spec.leftmostFrom_pos_none_iff hay needle pos

/-- **The empty needle, forward:** the sequence is `[0, 1, .., hay.len()]` - every offset
`0..=hay.len()` exactly once, ascending. -/
theorem greedy_fwd_empty (hay needle : Array UInt8) (h : needle.size = 0) :
    Spec.greedyFwd hay needle = List.range (hay.size + 1) :=
  Spec.greedyFwd_empty hay needle h

/-- The forward sequence is finite: at most `hay.len() + 1` matches, and at most
`hay.len() / needle.len()` for a non-empty needle (the matches do not overlap). -/
theorem greedy_fwd_length (hay needle : Array UInt8) :
    (Spec.greedyFwd hay needle).length ≤ hay.size + 1 ∧
    (0 < needle.size → (Spec.greedyFwd hay needle).length ≤ hay.size / needle.size) :=
  ⟨Spec.greedyFwd_length_le hay needle, Spec.greedyFwd_length_le_div hay needle⟩

/-! ### the reverse reference sequence `Spec.greedyRev` in plain terms

`Spec.greedyRev hay needle` is by definition
`Spec.greedyRevFrom hay needle hay.len() (hay.len() + 1)`: the matches that end at or before
`bound = hay.len()` (the last argument is recursion fuel). -/

/-- **Unfolding equation, reverse.** The matches ending at or before `bound` are: nothing, if
the needle is longer than `bound` or the inner search (next two theorems: the greatest
occurrence that ends at or before `bound`) finds none; otherwise that occurrence `i` followed by
the matches ending at or before `i` (they do not overlap the one just reported) - for the empty
needle, which matched at `i = bound` itself, followed by the matches ending at or before `i - 1`,
stopping after offset 0. -/
theorem greedy_rev_unfold (hay needle : Array UInt8) (bound : Nat) (hb : bound ≤ hay.size) :
    Spec.greedyRevFrom hay needle bound (hay.size + 1) =
      if bound < needle.size then [] else
      match Spec.rightmostBelow hay needle (bound - needle.size + 1) with
      | none => []
      | some i =>
        if needle.size = 0 then
          (if i = 0 then [i] else i :: Spec.greedyRevFrom hay needle (i - 1) (hay.size + 1))
        else i :: Spec.greedyRevFrom hay needle i (hay.size + 1) :=
  Spec.greedyRevFrom_unfold hay needle bound hb

/-- The inner search of the reverse sequence returns `Some(r)` exactly when the needle occurs at
`r`, that occurrence ends at or before `bound`, and no occurrence at a larger offset does: the
rightmost occurrence inside `hay[..bound]`. -/
theorem next_rev_some_iff (hay needle : Array UInt8) (bound r : Nat) (hb : needle.size ≤ bound) :
    Spec.rightmostBelow hay needle (bound - needle.size + 1) = some r ↔
      r + needle.size ≤ bound ∧ Spec.OccAt hay needle r ∧
        ∀ j, r < j → j + needle.size ≤ bound → ¬ Spec.OccAt hay needle j :=
  Spec.rightmostBelow_bound_some_iff hay needle bound r hb

/-- ... and `None` exactly when no occurrence ends at or before `bound`. -/
theorem next_rev_none_iff (hay needle : Array UInt8) (bound : Nat) (hb : needle.size ≤ bound) :
    Spec.rightmostBelow hay needle (bound - needle.size + 1) = none ↔
      ∀ j, j + needle.size ≤ bound → ¬ Spec.OccAt hay needle j :=
  Spec.rightmostBelow_bound_none_iff hay needle bound hb

/-- **The empty needle, reverse:** the sequence is `[hay.len(), .., 1, 0]` - every offset
`0..=hay.len()` exactly once, descending. -/
theorem greedy_rev_empty (hay needle : Array UInt8) (h : needle.size = 0) :
    Spec.greedyRev hay needle = (List.range (hay.size + 1)).reverse :=
  Spec.greedyRev_empty hay needle h

/-- The reverse sequence is finite: at most `hay.len() + 1` matches. -/
theorem greedy_rev_length (hay needle : Array UInt8) :
    (Spec.greedyRev hay needle).length ≤ hay.size + 1 :=
  Spec.greedyRev_length_le hay needle

/-! ### `find_iter` -/

/-- **`finder.find_iter(haystack)` yields exactly the forward greedy sequence, then `None`
forever.** For every configuration, every `FinderBuilder` finder (prefilter `None` / `Auto`, any
ranker), every valid needle and haystack and EVERY `k`: building the finder and calling `next()`
`k` times on `finder.find_iter(haystack)` returns normally; the `i`-th call (`i < k`) returns
`(Spec.greedyFwd haystack needle)[i]?` - the `i`-th entry of the sequence, `None` once `i` is
past its end (however much later, and whatever the adaptive prefilter did on the early part of
the haystack: its state is carried inside the iterator and never shows); and nothing is
allocated. -/
theorem find_iter_all (cfg : Api.Cfg) (b : FinderBuilder) (rank : UInt8 → UInt8)
    (needle hay : Slice) (hn : needle.Valid) (hh : hay.Valid) (k : Nat) (h : Heap) (c : Ctr) :
    ∃ it' h' c', (b.buildForwardWithRanker cfg rank needle >>= fun f =>
        FindIter.run cfg (List.replicate k .next) (f.findIter hay) h) c =
        .ok ((List.range k).map
          (fun i => Out.idx ((Spec.greedyFwd hay.toArray needle.toArray)[i]?)), it', h') c' ∧
      h'.allocs = h.allocs :=
  Memmem.C08.find_iter_all cfg b rank needle hay hn hh k h c

/-- **The top-level `memmem::find_iter(haystack, needle)`** (it moves a `Finder::new(needle)`
into the iterator instead of borrowing it): the same, for every configuration, valid needle and
haystack and every `k`. -/
theorem top_find_iter (cfg : Api.Cfg) (needle hay : Slice) (hn : needle.Valid)
    (hh : hay.Valid) (k : Nat) (h : Heap) (c : Ctr) :
    ∃ it' h' c', (Memmem.findIter cfg hay needle >>= fun it =>
        FindIter.run cfg (List.replicate k .next) it h) c =
        .ok ((List.range k).map
          (fun i => Out.idx ((Spec.greedyFwd hay.toArray needle.toArray)[i]?)), it', h') c' ∧
      h'.allocs = h.allocs := by
  obtain ⟨f, c1, hb, hg, _⟩ :=
    FinderBuilder.build_run cfg FinderBuilder.new Pair.defaultRank needle hn c
  have hit : Memmem.findIter cfg hay needle c = .ok (FindIter.new hay f) c1 := bind_ok hb
  obtain ⟨it', c', hr, _⟩ :=
    FindIter.nexts_run cfg hn hh (it := FindIter.new hay f) ⟨rfl, hg⟩ k h c1
  exact ⟨it', h, c', (bind_ok hit).trans hr, rfl⟩

/-! ### `rfind_iter` -/

/-- **`finder_rev.rfind_iter(haystack)` yields exactly the reverse greedy sequence, then `None`
forever.** For every configuration, valid needle and haystack and EVERY `k`: `FinderRev::new`
and `k` calls of `next()` on `rfind_iter(haystack)` return normally; the `i`-th call returns
`(Spec.greedyRev haystack needle)[i]?`; nothing is allocated. -/
theorem rfind_iter_all (cfg : Api.Cfg) (needle hay : Slice) (hn : needle.Valid)
    (hh : hay.Valid) (k : Nat) (h : Heap) (c : Ctr) :
    ∃ it' h' c', (FinderRev.new needle >>= fun f =>
        FindRevIter.run cfg (List.replicate k .next) (f.rfindIter hay) h) c =
        .ok ((List.range k).map
          (fun i => Out.idx ((Spec.greedyRev hay.toArray needle.toArray)[i]?)), it', h') c' ∧
      h'.allocs = h.allocs :=
  Memmem.C08.rfind_iter_all cfg needle hay hn hh k h c

/-- **The top-level `memmem::rfind_iter(haystack, needle)`**: the same. -/
theorem top_rfind_iter (cfg : Api.Cfg) (needle hay : Slice) (hn : needle.Valid)
    (hh : hay.Valid) (k : Nat) (h : Heap) (c : Ctr) :
    ∃ it' h' c', (Memmem.rfindIter hay needle >>= fun it =>
        FindRevIter.run cfg (List.replicate k .next) it h) c =
        .ok ((List.range k).map
          (fun i => Out.idx ((Spec.greedyRev hay.toArray needle.toArray)[i]?)), it', h') c' ∧
      h'.allocs = h.allocs := by
  obtain ⟨f, c1, hb, hg, _⟩ := FinderRev.new_run needle hn c
  have hit : Memmem.rfindIter hay needle c = .ok (FindRevIter.new hay f) c1 := bind_ok hb
  obtain ⟨it', c', hr, _⟩ := FindRevIter.nexts_run cfg hn hh (it := FindRevIter.new hay f)
    ⟨rfl, hg, fun p hp => by cases hp; exact Nat.le_refl _⟩ k h c1
  exact ⟨it', h, c', (bind_ok hit).trans ((revRest_start hh _) ▸ hr), rfl⟩

/-! ### `size_hint` -/

/-- **`FindIter::size_hint` brackets the number of matches still to come, in every state.** For
every forward iterator `it` over `hay` holding a finder for the needle bytes `n0`
(`FindIter.GoodFor`: ANY position, ANY prefilter state, borrowed or owned needle - by
`reachable_good` every state an iteration can reach): the lower bound is at most, and the upper
bound - when there is one - at least, the length of the greedy sequence from the iterator's
position, which by `size_hint_future` is exactly the list of matches its later `next()` calls
return. (`FindRevIter` does not override `size_hint`: it is the trivially correct `(0, None)`,
see `FindRevIter.step`.) -/
theorem size_hint {n0 hay : Slice} (hn0 : n0.Valid) (hh : hay.Valid) {it : FindIter}
    (hg : it.GoodFor n0 hay) :
    it.sizeHint.1 ≤
      (Spec.greedyFwdFrom hay.toArray n0.toArray it.pos (hay.toArray.size + 1)).length ∧
    ∀ hi, it.sizeHint.2 = some hi →
      (Spec.greedyFwdFrom hay.toArray n0.toArray it.pos (hay.toArray.size + 1)).length ≤ hi :=
  Memmem.C08.size_hint hn0 hh hg

/-- The same with the future spelled out: in every good state there is ONE list `L` (the greedy
sequence from the iterator's position) such that for every `k`, `k` further calls of `next()`
return `L[0]?, .., L[k-1]?` (so exactly `L.length` further matches, then `None` forever) and
leave a good state, and `size_hint()` brackets `L.length`. -/
theorem size_hint_future (cfg : Api.Cfg) {n0 hay : Slice} (hn0 : n0.Valid) (hh : hay.Valid)
    {it : FindIter} (hg : it.GoodFor n0 hay) :
    ∃ L : List Nat,
      L = Spec.greedyFwdFrom hay.toArray n0.toArray it.pos (hay.toArray.size + 1) ∧
      (∀ (k : Nat) (h : Heap) (c : Ctr), ∃ it' h' c',
        FindIter.run cfg (List.replicate k .next) it h c =
          .ok ((List.range k).map (fun i => Out.idx (L[i]?)), it', h') c' ∧
        it'.GoodFor n0 hay) ∧
      it.sizeHint.1 ≤ L.length ∧ ∀ hi, it.sizeHint.2 = some hi → L.length ≤ hi := by
  refine ⟨_, rfl, fun k h c => ?_, Memmem.C08.size_hint hn0 hh hg⟩
  obtain ⟨it', c', hr, hg', _⟩ := FindIter.nexts_run cfg hn0 hh hg k h c
  exact ⟨it', h, c', hr, hg'⟩

/-- Every state that `finder.find_iter(haystack)` reaches - after ANY sequence of `next`,
`size_hint`, `clone`, `into_owned` operations, i.e. at every prefix of an iteration - is a good
state, so `size_hint` / `size_hint_future` apply to it. -/
theorem reachable_good (cfg : Api.Cfg) (b : FinderBuilder) (rank : UInt8 → UInt8)
    (needle hay : Slice) (hn : needle.Valid) (hh : hay.Valid) (ops : List IterOp) (h : Heap)
    (c : Ctr) :
    ∃ outs it' h' c', (b.buildForwardWithRanker cfg rank needle >>= fun f =>
        FindIter.run cfg ops (f.findIter hay) h) c = .ok (outs, it', h') c' ∧
      it'.GoodFor needle hay := by
  obtain ⟨f, c1, hb, hg, _⟩ := FinderBuilder.build_run cfg b rank needle hn c
  obtain ⟨it', h', c', hr, hg', _⟩ := FindIter.run_ok cfg needle hay hn hh ops (f.findIter hay)
    (Finder.findIter_good hg hay) h c1
  exact ⟨_, it', h', c', by rw [bind_ok hb, hr], hg'⟩

/-! ### the hypotheses are satisfiable -/

/-- a self-overlapping needle "aa" in the repetitive haystack "aaaaa", as valid slices (sub-slices
of larger regions at odd addresses); the reference sequences are `[0, 2]` and `[3, 1]` -/
example : (⟨⟨1, 1048577, #[0, 97, 97, 0]⟩, 1, 2⟩ : Slice).Valid ∧
    (⟨⟨0, 4099, #[120, 97, 97, 97, 97, 97, 120]⟩, 1, 5⟩ : Slice).Valid ∧
    Spec.greedyFwd #[97, 97, 97, 97, 97] #[97, 97] = [0, 2] ∧
    Spec.greedyRev #[97, 97, 97, 97, 97] #[97, 97] = [3, 1] := by
  refine ⟨by simp [Slice.Valid], by simp [Slice.Valid], by decide, by decide⟩

/-- the empty needle in "ab": `[0, 1, 2]` and `[2, 1, 0]` -/
example : Spec.greedyFwd #[97, 98] #[] = [0, 1, 2] ∧ Spec.greedyRev #[97, 98] #[] = [2, 1, 0] := by
  decide

/-- a good iterator state exists (hypothesis of `size_hint`): position 3 of a 5-byte haystack,
with a searcher for the empty needle and an arbitrary prefilter state -/
example : FindIter.GoodFor (Slice.ofMem ⟨1, 64, #[]⟩) (Slice.ofMem ⟨0, 4096, Array.replicate 5 97⟩)
    { haystack := Slice.ofMem ⟨0, 4096, Array.replicate 5 97⟩, prestate := ⟨7, 9⟩,
      finder := { needle := CowBytes.new (Slice.ofMem ⟨1, 64, #[]⟩),
                  searcher := { kind := .empty, rabinkarp := RabinKarp.Finder.spec [] } },
      pos := 3 } :=
  ⟨rfl, ⟨by simp [Slice.Valid, Slice.ofMem, CowBytes.new], rfl⟩, rfl, rfl⟩

end Memchr.Props.C08

#print axioms Memchr.Props.C08.greedy_fwd_unfold
#print axioms Memchr.Props.C08.next_fwd_some_iff
#print axioms Memchr.Props.C08.next_fwd_none_iff
#print axioms Memchr.Props.C08.greedy_fwd_empty
#print axioms Memchr.Props.C08.greedy_fwd_length
#print axioms Memchr.Props.C08.greedy_rev_unfold
#print axioms Memchr.Props.C08.next_rev_some_iff
#print axioms Memchr.Props.C08.next_rev_none_iff
#print axioms Memchr.Props.C08.greedy_rev_empty
#print axioms Memchr.Props.C08.greedy_rev_length
#print axioms Memchr.Props.C08.find_iter_all
#print axioms Memchr.Props.C08.top_find_iter
#print axioms Memchr.Props.C08.rfind_iter_all
#print axioms Memchr.Props.C08.top_rfind_iter
#print axioms Memchr.Props.C08.size_hint
#print axioms Memchr.Props.C08.size_hint_future
#print axioms Memchr.Props.C08.reachable_good
