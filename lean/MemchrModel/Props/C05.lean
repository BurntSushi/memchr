/-
C05  Safe searches never read outside the slices they are given; aligned loads are aligned.

In the model every raw load goes through `Mem.loadU` / `Mem.loadA` / `Mem.read`, which fault
with `.oobRead` when the range is not inside the region and (`loadA`) with `.misaligned` when
the address is not a multiple of the width; pointer arithmetic that leaves the allocation
faults with `.ptrOob`.  A conclusion of the form `∃ v c', run = .ok v c'` therefore says: the
run performs NO load outside its region, NO misaligned aligned-load and NO out-of-allocation
pointer arithmetic (nor any other fault).  The memory region `m` (resp. the slice's region) is
arbitrary: every base address, hence every alignment of `start`/`end` and every distance to
the region's end (the "unmapped page").

Contents
* in domain (corollaries of the master theorems): generic vector find/rfind/count for every
  lawful vector type and the instances SSE2, AVX2, simd128, NEON; SWAR One/Two/Three for ALL
  `start`/`end`; `is_equal_raw`, `is_equal`, `is_prefix`, `is_suffix`; Rabin-Karp; packed pair
  `find` / `find_prefilter`; Shift-Or and pair selection (safe code: no raw load at all);
* out of domain: Rabin-Karp with an arbitrary finder; packed pair `find` with an arbitrary
  search needle, where exactly one possibility other than a normal return remains: the pointer
  arithmetic `end.sub(needle.len())` leaves the allocation WITHOUT a read (observation O2);
  packed pair below `min_haystack_len` is the documented panic before any load (C14);
* Two-Way forward / reverse (its search loops are safe code: checked slice indexing only; the
  constructors call `is_suffix` / `is_prefix`, whose raw loads stay inside the needle) and the
  substring API built on top of it - the meta searcher under every configuration (which decides
  which raw-load code runs: vector packed pair, vector / portable prefilter, SWAR or vector
  `memchr`, `is_equal_raw` confirmations), `memmem::find` / `rfind`, `Finder` / `FinderRev`,
  `find_iter` / `rfind_iter` (whose sub-slices `&haystack[pos..]`, `&haystack[..pos]` start or
  end anywhere inside the haystack).

Not covered here: the top-level byte-search functions and iterators (`memchr`, `memrchr`,
`memchr_iter`, ...: C01, C02, C06, C07 - each `= .ok ..` conclusion there is a no-fault
statement); Two-Way `find` / `rfind` called directly with a search needle that differs from the
construction needle (safe code - in the model its loops perform checked indexing only, no raw
load -, but no theorem is stated for that out-of-domain use).

Only statements, short proofs from the master lemmas, non-vacuity examples and
`#print axioms`.
-/
import MemchrModel.Proofs.MemchrGeneric
import MemchrModel.Proofs.Sensible
import MemchrModel.Proofs.Neon
import MemchrModel.Proofs.Swar
import MemchrModel.Proofs.IsEqual
import MemchrModel.Proofs.RabinKarp
import MemchrModel.Proofs.ShiftOr
import MemchrModel.Proofs.Pair
import MemchrModel.Proofs.PairFallback
import MemchrModel.Proofs.PackedPair
import MemchrModel.Proofs.Memmem

namespace Memchr.Props.C05

/-! ### generic vector `memchr` family (`src/arch/generic/memchr.rs`) -/

/-- Generic vector `find_raw` (`One`/`Two`/`Three`: `ns` = 1, 2 or 3 needle bytes, every
unroll factor `u`) on EVERY lawful vector type `V`, every memory region `m` (every base
address), every window `[start, end)` of at least `V::BYTES` bytes inside it and every
counter state: the run returns normally, i.e. every unaligned load, every aligned load (which
is checked for alignment when the ISA's instruction requires it) and every pointer `add`/`sub`
stays inside `m`. -/
theorem generic_find_reads_ok (V : VecImpl) (L : Lawful V) (ns : Needles) (u : Nat) (hu : 0 < u)
    (m : Mem) (start end_ : Nat) (c : Ctr)
    (hs : m.base ≤ start) (he : end_ ≤ m.base + m.bytes.size) (hlen : start + V.bytes ≤ end_) :
    ∃ v c', Generic.findRaw V ns u hu m start end_ c = .ok v c' :=
  ⟨_, Generic.findRaw_correct V L ns u hu m start end_ c hs he hlen⟩

/-- The same for the generic vector `rfind_raw`: over every lawful `V`, needle set, unroll
factor, region and window of at least `V::BYTES` bytes, no load or pointer leaves the region
and no aligned load is misaligned. -/
theorem generic_rfind_reads_ok (V : VecImpl) (L : Lawful V) (ns : Needles) (u : Nat) (hu : 0 < u)
    (m : Mem) (start end_ : Nat) (c : Ctr)
    (hs : m.base ≤ start) (he : end_ ≤ m.base + m.bytes.size) (hlen : start + V.bytes ≤ end_) :
    ∃ v c', Generic.rfindRaw V ns u hu m start end_ c = .ok v c' :=
  ⟨_, Generic.rfindRaw_correct V L ns u hu m start end_ c hs he hlen⟩

/-- The same for the generic vector `count_raw` (`One` only): over every lawful `V`, needle
byte, unroll factor, region and window of at least `V::BYTES` bytes. -/
theorem generic_count_reads_ok (V : VecImpl) (L : Lawful V) (n1 : UInt8) (u : Nat) (hu : 0 < u)
    (m : Mem) (start end_ : Nat) (c : Ctr)
    (hs : m.base ≤ start) (he : end_ ≤ m.base + m.bytes.size) (hlen : start + V.bytes ≤ end_) :
    ∃ v c', Generic.countRaw V n1 u hu m start end_ c = .ok v c' :=
  ⟨_, Generic.countRaw_correct V L n1 u hu m start end_ c hs he hlen⟩

/-- What the three theorems above say for one concrete vector type `V`: for every needle set,
needle byte, unroll factor, region, window of at least `V::BYTES` bytes and counter,
`find_raw`, `rfind_raw` and `count_raw` return normally (no out-of-region or misaligned load,
no out-of-allocation pointer). -/
def VectorReadsOk (V : VecImpl) : Prop :=
  ∀ (ns : Needles) (n1 : UInt8) (u : Nat) (hu : 0 < u) (m : Mem) (start end_ : Nat) (c : Ctr),
    m.base ≤ start → end_ ≤ m.base + m.bytes.size → start + V.bytes ≤ end_ →
    (∃ v c', Generic.findRaw V ns u hu m start end_ c = .ok v c') ∧
    (∃ v c', Generic.rfindRaw V ns u hu m start end_ c = .ok v c') ∧
    (∃ v c', Generic.countRaw V n1 u hu m start end_ c = .ok v c')

theorem generic_reads_ok (V : VecImpl) (L : Lawful V) : VectorReadsOk V :=
  fun ns n1 u hu m start end_ c hs he hlen =>
    ⟨generic_find_reads_ok V L ns u hu m start end_ c hs he hlen,
     generic_rfind_reads_ok V L ns u hu m start end_ c hs he hlen,
     generic_count_reads_ok V L n1 u hu m start end_ c hs he hlen⟩

/-- SSE2 (`__m128i`, 16 bytes, `_mm_load_si128` requires 16-byte alignment): find, rfind and
count never load outside the region and never issue a misaligned aligned load. -/
theorem sse2_reads_ok : VectorReadsOk Sensible.sse2 :=
  generic_reads_ok Sensible.sse2 Sensible.lawful_sse2

/-- AVX2 (`__m256i`, 32 bytes, `_mm256_load_si256` requires 32-byte alignment). -/
theorem avx2_reads_ok : VectorReadsOk Sensible.avx2 :=
  generic_reads_ok Sensible.avx2 Sensible.lawful_avx2

/-- wasm32 simd128 (`v128`, 16 bytes). -/
theorem simd128_reads_ok : VectorReadsOk Sensible.simd128 :=
  generic_reads_ok Sensible.simd128 Sensible.lawful_simd128

/-- aarch64 NEON (`uint8x16_t`, 16 bytes, nibble mask in a `u64`; `load_aligned` is an unaligned
load on this ISA, so only the bounds matter). -/
theorem neon_reads_ok : VectorReadsOk Neon.impl :=
  generic_reads_ok Neon.impl Neon.lawful

/-- hypotheses are satisfiable: a 80-byte region at an odd base address, a 74-byte window at
another odd address (long enough for AVX2) -/
example : ∃ (m : Mem) (start end_ : Nat), m.base ≤ start ∧ end_ ≤ m.base + m.bytes.size ∧
    start + Sensible.avx2.bytes ≤ end_ :=
  ⟨⟨0, 1001, Array.replicate 80 0⟩, 1003, 1077, by decide, by simp, by decide⟩

/-! ### portable SWAR fallback (`src/arch/all/memchr.rs`) -/

/-- SWAR `One::find_raw` for EVERY needle byte, region and EVERY pair `start`, `end` (the only
requirement, and only when `start < end`, is that the window lies in the region): the unaligned
`usize` head/tail loads stay in the region, every aligned `*const usize` read is at a multiple
of 8 and in the region, and the byte-at-a-time loops stay in the window. -/
theorem swar_one_find_reads_ok (n1 : UInt8) (m : Mem) (start end_ : Nat) (c : Ctr)
    (hb : start < end_ → m.base ≤ start ∧ end_ ≤ m.base + m.bytes.size) :
    ∃ v c', Swar.One.findRaw n1 m start end_ c = .ok v c' :=
  ⟨_, Swar.One.findRaw_correct n1 m start end_ c hb⟩

/-- SWAR `One::rfind_raw`, same quantification as `swar_one_find_reads_ok`. -/
theorem swar_one_rfind_reads_ok (n1 : UInt8) (m : Mem) (start end_ : Nat) (c : Ctr)
    (hb : start < end_ → m.base ≤ start ∧ end_ ≤ m.base + m.bytes.size) :
    ∃ v c', Swar.One.rfindRaw n1 m start end_ c = .ok v c' :=
  ⟨_, Swar.One.rfindRaw_correct n1 m start end_ c hb⟩

/-- SWAR `One::count_raw`, same quantification as `swar_one_find_reads_ok`. -/
theorem swar_one_count_reads_ok (n1 : UInt8) (m : Mem) (start end_ : Nat) (c : Ctr)
    (hb : start < end_ → m.base ≤ start ∧ end_ ≤ m.base + m.bytes.size) :
    ∃ v c', Swar.One.countRaw n1 m start end_ c = .ok v c' :=
  ⟨_, Swar.One.countRaw_correct n1 m start end_ c hb⟩

/-- SWAR `Two::find_raw` / `Three::find_raw` (`ns = ⟨s1, [s2]⟩` resp. `⟨s1, [s2, s3]⟩`; stated
for any number of needle bytes), every region and EVERY `start`, `end`: no load outside the
region, no misaligned word read. -/
theorem swar_multi_find_reads_ok (ns : Needles) (m : Mem) (start end_ : Nat) (c : Ctr)
    (hb : start < end_ → m.base ≤ start ∧ end_ ≤ m.base + m.bytes.size) :
    ∃ v c', Swar.Multi.findRaw ns m start end_ c = .ok v c' :=
  ⟨_, Swar.Multi.findRaw_correct ns m start end_ c hb⟩

/-- SWAR `Two::rfind_raw` / `Three::rfind_raw`, same quantification as
`swar_multi_find_reads_ok`. -/
theorem swar_multi_rfind_reads_ok (ns : Needles) (m : Mem) (start end_ : Nat) (c : Ctr)
    (hb : start < end_ → m.base ≤ start ∧ end_ ≤ m.base + m.bytes.size) :
    ∃ v c', Swar.Multi.rfindRaw ns m start end_ c = .ok v c' :=
  ⟨_, Swar.Multi.rfindRaw_correct ns m start end_ c hb⟩

/-- The `Two` and `Three` instances of the two theorems above, forward and reverse, for all
needle bytes `n1 n2 n3`. -/
theorem swar_two_three_reads_ok (n1 n2 n3 : UInt8) (m : Mem) (start end_ : Nat) (c : Ctr)
    (hb : start < end_ → m.base ≤ start ∧ end_ ≤ m.base + m.bytes.size) :
    (∃ v c', Swar.Multi.findRaw ⟨n1, [n2]⟩ m start end_ c = .ok v c') ∧
    (∃ v c', Swar.Multi.rfindRaw ⟨n1, [n2]⟩ m start end_ c = .ok v c') ∧
    (∃ v c', Swar.Multi.findRaw ⟨n1, [n2, n3]⟩ m start end_ c = .ok v c') ∧
    (∃ v c', Swar.Multi.rfindRaw ⟨n1, [n2, n3]⟩ m start end_ c = .ok v c') :=
  ⟨swar_multi_find_reads_ok _ m start end_ c hb, swar_multi_rfind_reads_ok _ m start end_ c hb,
   swar_multi_find_reads_ok _ m start end_ c hb, swar_multi_rfind_reads_ok _ m start end_ c hb⟩

/-- With `start >= end` (empty or inverted window) the SWAR routines need NO hypothesis about
the pointers at all: whatever the addresses and the region, nothing faults. -/
theorem swar_empty_window_reads_ok (n1 : UInt8) (ns : Needles) (m : Mem) (start end_ : Nat)
    (c : Ctr) (h : end_ ≤ start) :
    (∃ v c', Swar.One.findRaw n1 m start end_ c = .ok v c') ∧
    (∃ v c', Swar.One.rfindRaw n1 m start end_ c = .ok v c') ∧
    (∃ v c', Swar.One.countRaw n1 m start end_ c = .ok v c') ∧
    (∃ v c', Swar.Multi.findRaw ns m start end_ c = .ok v c') ∧
    (∃ v c', Swar.Multi.rfindRaw ns m start end_ c = .ok v c') :=
  have hb : start < end_ → m.base ≤ start ∧ end_ ≤ m.base + m.bytes.size :=
    fun h' => absurd h' (Nat.not_lt.mpr h)
  ⟨swar_one_find_reads_ok n1 m start end_ c hb, swar_one_rfind_reads_ok n1 m start end_ c hb,
   swar_one_count_reads_ok n1 m start end_ c hb, swar_multi_find_reads_ok ns m start end_ c hb,
   swar_multi_rfind_reads_ok ns m start end_ c hb⟩

/-- hypothesis of the SWAR theorems is satisfiable with a non-empty window: 18 bytes at the odd
address 4 of a 20-byte region based at 3 (shorter than three words, unaligned at both ends) -/
example : ∃ (m : Mem) (start end_ : Nat), start < end_ ∧
    (start < end_ → m.base ≤ start ∧ end_ ≤ m.base + m.bytes.size) :=
  ⟨⟨0, 3, Array.replicate 20 7⟩, 4, 22, by decide, fun _ => ⟨by decide, by simp⟩⟩

/-! ### `is_equal_raw` and friends (`src/arch/all/mod.rs`) -/

/-- `is_equal_raw(x, y, n)` for every two regions, every two addresses (any alignment) and every
`n` such that `[x, x+n)` and `[y, y+n)` are readable: every 4-, 2- and 1-byte unaligned load
stays inside its range. -/
theorem is_equal_raw_reads_ok (mx my : Mem) (x y n : Nat) (c : Ctr)
    (hx1 : mx.base ≤ x) (hx2 : x + n ≤ mx.base + mx.bytes.size)
    (hy1 : my.base ≤ y) (hy2 : y + n ≤ my.base + my.bytes.size) :
    ∃ v c', IsEqual.isEqualRaw mx my x y n c = .ok v c' :=
  let ⟨c', e, _⟩ := IsEqual.isEqualRaw_correct mx my x y n c hx1 hx2 hy1 hy2
  ⟨_, c', e⟩

/-- The safe wrappers `is_equal`, `is_prefix`, `is_suffix` on every two valid slices (any
lengths, including a needle longer than the haystack): no load outside the slices' regions. -/
theorem is_equal_prefix_suffix_reads_ok (h n : Slice) (c : Ctr) (hh : h.Valid) (hn : n.Valid) :
    (∃ v c', IsEqual.isEqual h n c = .ok v c') ∧
    (∃ v c', IsEqual.isPrefix h n c = .ok v c') ∧
    (∃ v c', IsEqual.isSuffix h n c = .ok v c') :=
  ⟨let ⟨c', e, _⟩ := IsEqual.isEqual_correct h n c hh hn; ⟨_, c', e⟩,
   let ⟨c', e, _⟩ := IsEqual.isPrefix_correct h n c hh hn; ⟨_, c', e⟩,
   let ⟨c', e, _⟩ := IsEqual.isSuffix_correct h n c hh hn; ⟨_, c', e⟩⟩

/-- hypotheses are satisfiable: two 7-byte sub-slices at offset 3 of 12-byte regions at odd
bases (slice-level), i.e. addresses 1004 and 2004, `n = 7` (raw level) -/
example : (⟨⟨0, 1001, Array.replicate 12 7⟩, 3, 7⟩ : Slice).Valid ∧
    (⟨⟨1, 2001, Array.replicate 12 7⟩, 3, 7⟩ : Slice).Valid := by
  simp [Slice.Valid]

/-! ### Rabin-Karp (`src/arch/all/rabinkarp.rs`) -/

/-- OUT OF DOMAIN, forward. For an ARBITRARY finder value (any stored hash and `hash_2pow`, e.g.
built for a different needle), every valid haystack and every valid needle (any lengths,
needle longer than the haystack included): `find` returns normally - no fault of any kind, in
particular no `.oobRead`, `.misaligned`, `.ptrOob` -, a reported offset is a true occurrence,
and the step bound holds. -/
theorem rabinkarp_find_reads_ok (f : RabinKarp.Finder) (h n : Slice) (c : Ctr)
    (hh : h.Valid) (hn : n.Valid) :
    ∃ r c', f.find h n c = .ok r c' ∧
      (∀ i, r = some i → Spec.OccAt h.toArray n.toArray i) ∧
      c'.steps ≤ c.steps + 2 * (h.len + 1) * (n.len / 4 + 2) + n.len :=
  RabinKarp.find_reads_ok f h n c hh hn

/-- OUT OF DOMAIN, reverse: as `rabinkarp_find_reads_ok` for an arbitrary `FinderRev`. -/
theorem rabinkarp_rfind_reads_ok (f : RabinKarp.FinderRev) (h n : Slice) (c : Ctr)
    (hh : h.Valid) (hn : n.Valid) :
    ∃ r c', f.rfind h n c = .ok r c' ∧
      (∀ i, r = some i → Spec.OccAt h.toArray n.toArray i) ∧
      c'.steps ≤ c.steps + 2 * (h.len + 1) * (n.len / 4 + 2) + n.len :=
  RabinKarp.rfind_reads_ok f h n c hh hn

/-- Construction included, forward: a finder built by `Finder::new` from ANY slice `n0` (valid
or not: the construction uses safe iteration only), then searched with any valid haystack and
any valid needle `n` (related to `n0` or not). -/
theorem rabinkarp_new_find_reads_ok (h n0 n : Slice) (c : Ctr) (hh : h.Valid) (hn : n.Valid) :
    ∃ r c', (RabinKarp.Finder.new n0 >>= fun f => f.find h n) c = .ok r c' ∧
      (∀ i, r = some i → Spec.OccAt h.toArray n.toArray i) ∧
      c'.steps ≤ c.steps + 2 * (h.len + 1) * (n.len / 4 + 2) + n.len + n0.len := by
  rw [bind_ok (RabinKarp.Finder.new_run n0 c)]
  obtain ⟨r, c', e, hsound, hs⟩ := rabinkarp_find_reads_ok (RabinKarp.Finder.spec n0.toList) h n
    { c with steps := c.steps + (n0.len - 1) } hh hn
  exact ⟨r, c', e, hsound, RabinKarp.new_bound hs⟩

/-- Construction included, reverse: as `rabinkarp_new_find_reads_ok` for `FinderRev`. -/
theorem rabinkarp_new_rfind_reads_ok (h n0 n : Slice) (c : Ctr) (hh : h.Valid) (hn : n.Valid) :
    ∃ r c', (RabinKarp.FinderRev.new n0 >>= fun f => f.rfind h n) c = .ok r c' ∧
      (∀ i, r = some i → Spec.OccAt h.toArray n.toArray i) ∧
      c'.steps ≤ c.steps + 2 * (h.len + 1) * (n.len / 4 + 2) + n.len + n0.len := by
  rw [bind_ok (RabinKarp.FinderRev.new_run n0 c)]
  obtain ⟨r, c', e, hsound, hs⟩ :=
    rabinkarp_rfind_reads_ok ⟨RabinKarp.Finder.spec n0.toList.reverse⟩ h n
      { c with steps := c.steps + (n0.len - 1) } hh hn
  exact ⟨r, c', e, hsound, RabinKarp.new_bound hs⟩

/-- hypotheses are satisfiable: sub-slices of larger regions at page-like bases -/
example : (⟨⟨0, 4096, #[9, 1, 2, 1, 2, 3, 9]⟩, 1, 5⟩ : Slice).Valid ∧
    (⟨⟨1, 8192, #[7, 1, 2, 3]⟩, 1, 3⟩ : Slice).Valid := by
  simp [Slice.Valid]

/-! ### generic packed pair (`src/arch/generic/packedpair.rs`) -/

/-- IN DOMAIN. For every lawful `V`, every valid haystack and needle, a finder built by
`Finder::new(needle, Pair{i1, i2})` with two distinct in-range indices, and a haystack of at
least `min_haystack_len` bytes: `find(haystack, needle)` returns normally - both vector loads
of every chunk (at `cur + index1` and `cur + index2`, including the final chunk re-aligned to
`end - min_haystack_len`) and every confirmation `is_equal_raw` stay inside the slices. -/
theorem packedpair_find_reads_ok (V : VecImpl) (L : Lawful V) (hay needle : Slice)
    (hh : hay.Valid) (hn : needle.Valid) (i1 i2 : Nat) (hne : i1 ≠ i2) (h1 : i1 < needle.len)
    (h2 : i2 < needle.len) (f : PackedPair.Finder) (c0 c0' : Ctr)
    (hf : PackedPair.Finder.new V needle i1 i2 c0 = .ok f c0')
    (hlen : f.minHaystackLen ≤ hay.len) (c : Ctr) :
    ∃ r c', PackedPair.find V f hay needle c = .ok r c' :=
  let ⟨c', e, _⟩ := PackedPair.find_correct L hay needle hh hn i1 i2 hne h1 h2 f c0 c0' hf hlen c
  ⟨_, c', e⟩

/-- `find_prefilter` for every lawful `V`, EVERY finder value with distinct indices whose
`min_haystack_len` covers both vector loads (`FinderOk`), and every valid haystack of at least
`min_haystack_len` bytes: returns normally (no load outside the haystack). -/
theorem packedpair_prefilter_reads_ok (V : VecImpl) (L : Lawful V) (f : PackedPair.Finder)
    (hok : PackedPair.FinderOk V f) (hay : Slice) (hh : hay.Valid)
    (hlen : f.minHaystackLen ≤ hay.len) (c : Ctr) :
    ∃ r c', PackedPair.findPrefilter V f hay c = .ok r c' :=
  (PackedPair.findPrefilter_panics_iff L f hok hay hh c).2 hlen

/-- OUT OF DOMAIN. `find` is a safe function and accepts ANY search needle (any bytes, any
length, unrelated to the construction needle). For every lawful `V`, every `FinderOk` finder,
every valid haystack of at least `min_haystack_len` bytes and every valid search needle, the
run cannot end in a debug assertion, a panic, an overflow, an out-of-bounds read or a
misaligned load. The ONE remaining possibility besides a normal return is the pointer
arithmetic `end.sub(needle.len())` in `find_in_chunk` leaving the haystack's allocation
(`.ptrOob siteEndSub`): undefined behaviour in Rust, but WITHOUT any read (observation O2; it
happens exactly when `packedpair_find_ptrOob_iff` says). -/
theorem packedpair_find_foreign_no_fault_but_ptrOob (V : VecImpl) (L : Lawful V)
    (f : PackedPair.Finder) (hok : PackedPair.FinderOk V f) (hay needle : Slice)
    (hh : hay.Valid) (hn : needle.Valid) (hlen : f.minHaystackLen ≤ hay.len) (c : Ctr) :
    (∀ s, PackedPair.find V f hay needle c ≠ .fault (.debugAssert s)) ∧
    (∀ s, PackedPair.find V f hay needle c ≠ .fault (.panic s)) ∧
    (∀ s, PackedPair.find V f hay needle c ≠ .fault (.overflow s)) ∧
    (∀ r a l, PackedPair.find V f hay needle c ≠ .fault (.oobRead r a l)) ∧
    (∀ a w, PackedPair.find V f hay needle c ≠ .fault (.misaligned a w)) ∧
    (∀ s, PackedPair.find V f hay needle c = .fault (.ptrOob s) → s = PackedPair.siteEndSub) :=
  PackedPair.find_no_fault_but_ptrOob L f hok hay needle hh hn hlen c

/-- OUT OF DOMAIN, the same as a dichotomy: normal return, or the O2 pointer fault (no read). -/
theorem packedpair_find_foreign_reads_ok (V : VecImpl) (L : Lawful V)
    (f : PackedPair.Finder) (hok : PackedPair.FinderOk V f) (hay needle : Slice)
    (hh : hay.Valid) (hn : needle.Valid) (hlen : f.minHaystackLen ≤ hay.len) (c : Ctr) :
    (∃ r c', PackedPair.find V f hay needle c = .ok r c') ∨
    PackedPair.find V f hay needle c = .fault (.ptrOob PackedPair.siteEndSub) :=
  PackedPair.find_reads_ok L f hok hay needle hh hn hlen c

/-- O2, EXACTLY. Under the hypotheses of the previous theorem, `end.sub(needle.len())` leaves
the allocation iff the search needle is longer than the part of the haystack's region that ends
with the haystack (`hay.off + hay.len`) AND the finder's byte pair matches at some offset `q`
inspected by the main loop. A search needle no longer than the haystack can never trigger it. -/
theorem packedpair_find_ptrOob_iff (V : VecImpl) (L : Lawful V)
    (f : PackedPair.Finder) (hok : PackedPair.FinderOk V f) (hay needle : Slice)
    (hh : hay.Valid) (hn : needle.Valid) (hlen : f.minHaystackLen ≤ hay.len) (c : Ctr) :
    PackedPair.find V f hay needle c = .fault (.ptrOob PackedPair.siteEndSub) ↔
      hay.off + hay.len < needle.len ∧
        ∃ q, q ≤ hay.len - f.minHaystackLen + q % V.bytes ∧ f.CandAt hay q :=
  PackedPair.find_ptrOob_iff L f hok hay needle hh hn hlen c

/-- What the out-of-domain theorems say for one concrete vector type: for every `FinderOk`
finder, valid haystack of at least `min_haystack_len` bytes, valid search needle and counter,
`find` returns normally or stops at the O2 pointer computation, and `find_prefilter` returns
normally. -/
def PackedPairReadsOk (V : VecImpl) : Prop :=
  ∀ (f : PackedPair.Finder) (hay needle : Slice) (c : Ctr), PackedPair.FinderOk V f →
    hay.Valid → needle.Valid → f.minHaystackLen ≤ hay.len →
    ((∃ r c', PackedPair.find V f hay needle c = .ok r c') ∨
      PackedPair.find V f hay needle c = .fault (.ptrOob PackedPair.siteEndSub)) ∧
    (∃ r c', PackedPair.findPrefilter V f hay c = .ok r c')

theorem packedpair_reads_ok (V : VecImpl) (L : Lawful V) : PackedPairReadsOk V :=
  fun f hay needle c hok hh hn hlen =>
    ⟨packedpair_find_foreign_reads_ok V L f hok hay needle hh hn hlen c,
     packedpair_prefilter_reads_ok V L f hok hay hh hlen c⟩

theorem packedpair_sse2_reads_ok : PackedPairReadsOk Sensible.sse2 :=
  packedpair_reads_ok Sensible.sse2 Sensible.lawful_sse2

theorem packedpair_avx2_reads_ok : PackedPairReadsOk Sensible.avx2 :=
  packedpair_reads_ok Sensible.avx2 Sensible.lawful_avx2

theorem packedpair_simd128_reads_ok : PackedPairReadsOk Sensible.simd128 :=
  packedpair_reads_ok Sensible.simd128 Sensible.lawful_simd128

theorem packedpair_neon_reads_ok : PackedPairReadsOk Neon.impl :=
  packedpair_reads_ok Neon.impl Neon.lawful

/-- hypotheses are satisfiable (SSE2): needle "abcdefgh", pair `(0, 7)`, `min_haystack_len = 23`,
a 40-byte haystack at address 64; and a foreign one-byte search needle -/
example : PackedPair.exHay.Valid ∧ PackedPair.exNeedle.Valid ∧ PackedPair.exForeign.Valid ∧
    PackedPair.Finder.new Sensible.sse2 PackedPair.exNeedle 0 7 {} =
      .ok (PackedPair.mkFinder Sensible.sse2 PackedPair.exNeedle 0 7) {} ∧
    PackedPair.FinderOk Sensible.sse2 (PackedPair.mkFinder Sensible.sse2 PackedPair.exNeedle 0 7) ∧
    (PackedPair.mkFinder Sensible.sse2 PackedPair.exNeedle 0 7).minHaystackLen ≤
      PackedPair.exHay.len :=
  ⟨Slice.ofMem_valid _, Slice.ofMem_valid _, Slice.ofMem_valid _, PackedPair.exNew _,
   PackedPair.mkFinder_ok _ 0 7 (by decide), PackedPair.exMin_le _ (by decide)⟩

/-! ### safe code without raw loads: Shift-Or, pair selection, portable prefilter -/

/-- Shift-Or (`src/arch/all/shiftor.rs`) is safe code: for EVERY needle slice (valid or not, any
length) `Finder::new` returns normally and leaves the counter - hence the load trace -
untouched: it performs no raw load at all. -/
theorem shiftor_new_no_loads (needle : Slice) (c : Ctr) :
    ∃ r, ShiftOr.Finder.new needle c = .ok r c :=
  let ⟨_, e, _⟩ := ShiftOr.Finder.new_correct needle c
  ⟨_, e⟩

/-- Shift-Or `find`: for every valid needle of at most 15 bytes and every valid haystack the
finder is built and `find` returns normally with the load trace unchanged (no raw load). -/
theorem shiftor_find_no_loads (needle hay : Slice) (hvn : needle.Valid) (hvh : hay.Valid)
    (hlen : needle.len ≤ 15) (c : Ctr) :
    ∃ f r c', ShiftOr.Finder.new needle c = .ok (some f) c ∧ f.find hay c = .ok r c' ∧
      c'.loads = c.loads :=
  let ⟨f, e1, e2⟩ := ShiftOr.shiftOr_correct needle hay hvn hvh hlen c
  ⟨f, _, c, e1, e2, rfl⟩

/-- Pair selection `Pair::with_ranker` for EVERY needle slice and EVERY ranker: returns
normally and performs no raw load (`c'.loads = c.loads`); indexing is bounds-checked slice
indexing that is shown never to panic. -/
theorem pair_with_ranker_no_loads (needle : Slice) (rank : UInt8 → UInt8) (c : Ctr) :
    ∃ r c', Pair.withRanker needle rank c = .ok r c' ∧ c'.loads = c.loads :=
  let ⟨_, c', e, _, _, _, hl⟩ := Pair.withRanker_correct needle rank c
  ⟨_, c', e, hl⟩

/-- `Pair::new` (default byte-frequency ranker), same statement. -/
theorem pair_new_no_loads (needle : Slice) (c : Ctr) :
    ∃ r c', Pair.new needle c = .ok r c' ∧ c'.loads = c.loads :=
  let ⟨_, c', e, _, _, _, hl⟩ := Pair.new_correct needle c
  ⟨_, c', e, hl⟩

/-- Portable packed-pair finder construction `Finder::with_pair` from a pair valid for the
needle: returns normally with the counter (and load trace) untouched. -/
theorem fallback_with_pair_no_loads (needle : Slice) (p : Pair) (hp : p.ValidFor needle) (c : Ctr) :
    ∃ r, Fallback.withPair needle p c = .ok r c :=
  ⟨_, Fallback.withPair_ok needle p hp c⟩

/-- The same constructor with ANY pair, in particular one selected on a different (longer)
needle: it builds the finder or panics on the checked index; it panics exactly when an offset
is outside the needle, and never reads (counter and load trace untouched either way). -/
theorem fallback_with_pair_foreign (needle : Slice) (p : Pair) (c : Ctr) :
    (p.index1.toNat < needle.len ∧ p.index2.toNat < needle.len ∧
      ∃ r, Fallback.withPair needle p c = .ok r c) ∨
    ((¬ (p.index1.toNat < needle.len ∧ p.index2.toNat < needle.len)) ∧
      ∃ site, Fallback.withPair needle p c = .fault (.panic site)) := by
  rcases Fallback.withPair_total needle p c with ⟨h1, h2, h⟩ | h
  · exact .inl ⟨h1, h2, _, h⟩
  · exact .inr h

/-- Portable `find_prefilter` (safe code; its only memory access besides checked indexing is the
`memchr` it calls, which is a parameter here and assumed correct, `MemchrOk`): for every finder
and every valid haystack it returns normally. -/
theorem fallback_prefilter_reads_ok {memchr : UInt8 → Slice → M (Option Nat)} {K : Nat}
    (hm : Fallback.MemchrOk memchr K) (f : Fallback.Finder) (hay : Slice) (hv : hay.Valid)
    (c : Ctr) :
    ∃ r c', Fallback.findPrefilter memchr f hay c = .ok r c' :=
  let ⟨_, c', e, _⟩ := Fallback.findPrefilter_correct hm f hay hv c
  ⟨_, c', e⟩

/-- hypotheses are satisfiable: needle "aba" at address 64, haystack "xababa" at address 4096,
the pair `(2, 0)`, and the specification `memchr` -/
example : (Slice.ofMem ⟨1, 64, #[97, 98, 97]⟩).Valid ∧
    (Slice.ofMem ⟨0, 4096, #[120, 97, 98, 97, 98, 97]⟩).Valid ∧
    (Slice.ofMem ⟨1, 64, #[97, 98, 97]⟩).len ≤ 15 ∧
    Pair.ValidFor ⟨2, 0⟩ (Slice.ofMem ⟨1, 64, #[97, 98, 97]⟩) ∧
    Fallback.MemchrOk Fallback.specMemchr 0 :=
  ⟨Nat.le_of_eq (Nat.zero_add _), Nat.le_of_eq (Nat.zero_add _), by decide,
   ⟨by decide, by decide, by decide⟩, Fallback.specMemchr_ok⟩

/-! ### Two-Way and the substring API (`src/arch/all/twoway.rs`, `src/memmem/*.rs`)

As everywhere in this file, `run = .ok v c'` excludes every fault of the model, in particular
`.oobRead` (a raw load outside its region), `.misaligned` (an aligned load at an unaligned
address) and `.ptrOob`; the slices are arbitrary valid windows of arbitrary regions, so they may
start at any alignment and end exactly at the end of their region (the "unmapped page"). -/

/-- **Two-Way forward**: `twoway::Finder::new(needle)` then `find_with_prefilter(pre, haystack,
needle)` for every valid needle and haystack and every optional prefilter whose strategy returns
normally on the tails of the haystack (sound or not), in every prefilter state: returns normally
- the constructor's `is_suffix` loads stay inside the needle, the search loops only index inside
the two slices. -/
theorem twoway_find_reads_ok (needle haystack : Slice) (pre : Option Pre) (c : Ctr)
    (strat : Slice → M (Option Nat)) (hnv : needle.Valid) (hhv : haystack.Valid)
    (hpre : TwoWay.PreOK strat pre)
    (htotal : pre ≠ none → ∀ a, a ≤ haystack.len → ∀ c, ∃ r c',
      strat (TwoWay.tailFrom haystack a) c = .ok r c') :
    ∃ r c', (TwoWay.Finder.new needle >>= fun tw =>
        TwoWay.Finder.findWithPrefilter tw pre haystack needle) c = .ok r c' :=
  let ⟨_, _, c', e, _⟩ :=
    Bridge3.twoway_find_any_prefilter needle haystack pre c strat hnv hhv hpre htotal
  ⟨_, c', e⟩

/-- **Two-Way reverse**: `twoway::FinderRev::new(needle).rfind(haystack, needle)` for every valid
needle and haystack returns normally. -/
theorem twoway_rfind_reads_ok (needle haystack : Slice) (c : Ctr) (hnv : needle.Valid)
    (hhv : haystack.Valid) :
    ∃ r c', (TwoWay.FinderRev.new needle >>= fun tw =>
        TwoWay.FinderRev.rfind tw haystack needle) c = .ok r c' :=
  let ⟨c', e, _⟩ := TwoWay.rfind_correct needle haystack c hnv hhv
  ⟨_, c', e⟩

/-- **The meta searcher under EVERY configuration** (every backend choice for the packed-pair
searcher, the prefilter and `memchr`), prefilter setting, ranker, valid needle and haystack and
prefilter state: `Searcher::new` and `Searcher::find` return normally - whichever vector or SWAR
code the configuration selects, none of its loads leaves the haystack or the needle and every
aligned load is aligned. -/
theorem searcher_find_reads_ok (cfg : Api.Cfg) (pf : Memmem.PrefilterConfig)
    (rank : UInt8 → UInt8) (needle hay : Slice) (hn : needle.Valid) (hh : hay.Valid)
    (st : PrefilterState) (c : Ctr) :
    ∃ s c1, Memmem.Searcher.new cfg pf rank needle c = .ok s c1 ∧ ∀ c2, ∃ r c3,
      s.find cfg st hay needle c2 = .ok r c3 :=
  let ⟨s, c1, e, hf⟩ := Memmem.C03.find_all cfg pf rank needle hay hn hh st c
  ⟨s, c1, e, fun c2 => let ⟨_, c3, e2⟩ := hf c2; ⟨_, c3, e2⟩⟩

/-- **The reverse meta searcher under every configuration**: `SearcherRev::new` and `rfind`
return normally for every valid needle and haystack. -/
theorem searcher_rfind_reads_ok (cfg : Api.Cfg) (needle hay : Slice) (hn : needle.Valid)
    (hh : hay.Valid) (c : Ctr) :
    ∃ s c1, Memmem.SearcherRev.new needle c = .ok s c1 ∧ ∀ c2, ∃ r c3,
      s.rfind cfg hay needle c2 = .ok r c3 :=
  let ⟨s, c1, e, hf⟩ := Memmem.C04.rfind_all cfg needle hay hn hh c
  ⟨s, c1, e, fun c2 => ⟨_, hf c2⟩⟩

/-- **`memmem::find`, `memmem::rfind`, `Finder::new(..).find(..)`, `FinderRev::new(..).rfind(..)`**
under every configuration, for every valid needle and haystack: all four return normally. -/
theorem memmem_reads_ok (cfg : Api.Cfg) (needle hay : Slice) (hn : needle.Valid) (hh : hay.Valid)
    (c : Ctr) :
    (∃ r c', Memmem.find cfg hay needle c = .ok r c') ∧
    (∃ r c', Memmem.rfind cfg hay needle c = .ok r c') ∧
    (∃ r c', (Memmem.Finder.new cfg needle >>= fun f => f.find cfg hay) c = .ok r c') ∧
    (∃ r c', (Memmem.FinderRev.new needle >>= fun f => f.rfind cfg hay) c = .ok r c') :=
  ⟨⟨_, Memmem.C03.oneshot_all cfg needle hay hn hh c⟩,
   ⟨_, Memmem.C04.oneshot_all cfg needle hay hn hh c⟩,
   ⟨_, Memmem.C03.finder_find cfg needle hay hn hh c⟩,
   ⟨_, Memmem.C04.finder_rfind_all cfg needle hay hn hh c⟩⟩

/-- **`find_iter` under every operation sequence** (`next`, `size_hint`, `clone`, `into_owned`,
any order and number; each `next` searches the sub-slice `&haystack[pos..]`, which starts
anywhere inside the haystack - any alignment - and ends with it; after `into_owned` the needle
lives in a fresh heap region): returns normally under every configuration. -/
theorem find_iter_reads_ok (cfg : Api.Cfg) (b : Memmem.FinderBuilder) (rank : UInt8 → UInt8)
    (needle hay : Slice) (hn : needle.Valid) (hh : hay.Valid) (ops : List Memmem.IterOp)
    (h : Memmem.Heap) (c : Ctr) :
    ∃ r c', (b.buildForwardWithRanker cfg rank needle >>= fun f =>
      Memmem.FindIter.run cfg ops (f.findIter hay) h) c = .ok r c' :=
  let ⟨_, _, c', e, _⟩ := Bridge3.findIter_run_all cfg b rank needle hay hn hh ops h c
  ⟨_, c', e⟩

/-- **`rfind_iter` under every operation sequence** (each `next` searches `&haystack[..pos]`,
which ends anywhere inside the haystack): returns normally under every configuration. -/
theorem rfind_iter_reads_ok (cfg : Api.Cfg) (needle hay : Slice) (hn : needle.Valid)
    (hh : hay.Valid) (ops : List Memmem.IterOp) (h : Memmem.Heap) (c : Ctr) :
    ∃ r c', (Memmem.FinderRev.new needle >>= fun f =>
      Memmem.FindRevIter.run cfg ops (f.rfindIter hay) h) c = .ok r c' :=
  let ⟨_, _, c', e, _⟩ := Bridge3.rfindIter_run_all cfg needle hay hn hh ops h c
  ⟨_, c', e⟩

/-- hypotheses are satisfiable: a 40-byte needle at an odd address and a 100-byte haystack that
ends exactly at the end of its region (the slice is the whole region), a sub-slice of a larger
region at an odd offset, no prefilter -/
example : (Slice.ofMem ⟨1, 65, Array.replicate 40 97⟩).Valid ∧
    (Slice.ofMem ⟨0, 4096 - 100, Array.replicate 100 97⟩).Valid ∧
    (⟨⟨0, 4099, #[120, 120, 97, 98, 99, 120, 97, 98, 99, 120]⟩, 1, 8⟩ : Slice).Valid ∧
    TwoWay.PreOK (fun _ => pure none) none := by
  refine ⟨by simp [Slice.Valid, Slice.ofMem], by simp [Slice.Valid, Slice.ofMem],
    by simp [Slice.Valid], fun p hp => by cases hp⟩

end Memchr.Props.C05

#print axioms Memchr.Props.C05.generic_find_reads_ok
#print axioms Memchr.Props.C05.generic_rfind_reads_ok
#print axioms Memchr.Props.C05.generic_count_reads_ok
#print axioms Memchr.Props.C05.generic_reads_ok
#print axioms Memchr.Props.C05.sse2_reads_ok
#print axioms Memchr.Props.C05.avx2_reads_ok
#print axioms Memchr.Props.C05.simd128_reads_ok
#print axioms Memchr.Props.C05.neon_reads_ok
#print axioms Memchr.Props.C05.swar_one_find_reads_ok
#print axioms Memchr.Props.C05.swar_one_rfind_reads_ok
#print axioms Memchr.Props.C05.swar_one_count_reads_ok
#print axioms Memchr.Props.C05.swar_multi_find_reads_ok
#print axioms Memchr.Props.C05.swar_multi_rfind_reads_ok
#print axioms Memchr.Props.C05.swar_two_three_reads_ok
#print axioms Memchr.Props.C05.swar_empty_window_reads_ok
#print axioms Memchr.Props.C05.is_equal_raw_reads_ok
#print axioms Memchr.Props.C05.is_equal_prefix_suffix_reads_ok
#print axioms Memchr.Props.C05.rabinkarp_find_reads_ok
#print axioms Memchr.Props.C05.rabinkarp_rfind_reads_ok
#print axioms Memchr.Props.C05.rabinkarp_new_find_reads_ok
#print axioms Memchr.Props.C05.rabinkarp_new_rfind_reads_ok
#print axioms Memchr.Props.C05.packedpair_find_reads_ok
#print axioms Memchr.Props.C05.packedpair_prefilter_reads_ok
#print axioms Memchr.Props.C05.packedpair_find_foreign_no_fault_but_ptrOob
#print axioms Memchr.Props.C05.packedpair_find_foreign_reads_ok
#print axioms Memchr.Props.C05.packedpair_find_ptrOob_iff
#print axioms Memchr.Props.C05.packedpair_reads_ok
#print axioms Memchr.Props.C05.packedpair_sse2_reads_ok
#print axioms Memchr.Props.C05.packedpair_avx2_reads_ok
#print axioms Memchr.Props.C05.packedpair_simd128_reads_ok
#print axioms Memchr.Props.C05.packedpair_neon_reads_ok
#print axioms Memchr.Props.C05.shiftor_new_no_loads
#print axioms Memchr.Props.C05.shiftor_find_no_loads
#print axioms Memchr.Props.C05.pair_with_ranker_no_loads
#print axioms Memchr.Props.C05.pair_new_no_loads
#print axioms Memchr.Props.C05.fallback_with_pair_no_loads
#print axioms Memchr.Props.C05.fallback_with_pair_foreign
#print axioms Memchr.Props.C05.fallback_prefilter_reads_ok
#print axioms Memchr.Props.C05.twoway_find_reads_ok
#print axioms Memchr.Props.C05.twoway_rfind_reads_ok
#print axioms Memchr.Props.C05.searcher_find_reads_ok
#print axioms Memchr.Props.C05.searcher_rfind_reads_ok
#print axioms Memchr.Props.C05.memmem_reads_ok
#print axioms Memchr.Props.C05.find_iter_reads_ok
#print axioms Memchr.Props.C05.rfind_iter_reads_ok
