/-
C06  Byte-search iterators yield every match exactly once in any call order.

Only statements, short proofs from the master lemmas (`Proofs/MemchrApiIter.lean`), a
non-vacuity example and `#print axioms`.

Vocabulary (all in `Model/MemchrApi.lean` / `Proofs/MemchrApiIter.lean`):

* `Api.Op` is one call on the iterator: `next`, `nextBack`, `sizeHint`, or `count` (the latter
  on a clone, so it observes without consuming). `Api.Out` is what the call returned:
  `.idx o` (an `Option` index), `.hint lo hi`, `.cnt k`.
* `Api.Iter.run f ops it` is the model of the REAL iterator (`arch::generic::memchr::Iter`
  with its three raw pointers) performing the calls `ops` in order with the raw routines `f`
  (`RawFns.ofCfg cfg ns m`: `Memchr`/`Memchr2`/`Memchr3` of `src/memchr.rs` for a build / CPU
  configuration; `RawFns.ofBackend b ns m`: `OneIter`/`TwoIter`/`ThreeIter` of a backend). It
  returns the list of outputs and the final iterator.
* `Api.absRun ops rem` is the ABSTRACT iterator: its state `rem` is a list of positions;
  `next` returns and removes the head, `next_back` returns and removes the last element,
  `size_hint` and `count` report `rem.length` and change nothing (`abs_next`, `abs_nextBack`,
  `abs_sizeHint`, `abs_count`, `absRun_nil`, `absRun_cons` below are its complete definition).
  Its initial state is `Api.allMatches hay ns`, which `allMatches_spec` pins down as exactly the
  match positions of the haystack in increasing order.
* `Api.OutsOk outs aouts`: the real outputs `outs` are acceptable for the abstract outputs
  `aouts`: same length, and pointwise `OutOk` (`outsOk_nil`, `outsOk_cons`): `next`,
  `next_back` and `count` results must be EQUAL to the abstract ones (`outOk_idx`, `outOk_cnt`);
  for `size_hint` the real iterator must return `(0, Some h)` with `remaining <= h`, where
  `remaining` is the number of elements the abstract iterator has left (`outOk_hint`). That is
  the property's "upper bound at least the number of matches still to come, lower bound at most
  that number" (the real lower bound is the constant 0).
* `Api.Refines hay ns it rem`: the real iterator state `it` represents the abstract state
  `rem`: same memory region, `original_start` is the haystack pointer,
  `hay.ptr <= start <= end <= hay.ptr + hay.len`, and `rem` is the list of match positions
  (indices relative to the haystack) inside the current window `[start, end)`.

How the clauses of the property are covered:

  any sequence of next()/next_back() calls, every needle set,   `refines_backend`,
    haystack, backend / configuration: yields match positions    `refines_cfg`
    from the front ascending, from the back descending
  never twice, never a non-matching position, all of them        `every_match_exactly_once_*`
                                                                 with `allMatches_spec`
  after the ends meet, `None` forever                            `none_forever`
  size_hint bounds at every point                                `outOk_hint` (inside
                                                                 `refines_*`), `size_hint_bounds`
-/
import MemchrModel.Proofs.MemchrApiIter

namespace Memchr.Props.C06

open Memchr.Api

/-! ### the abstract iterator, completely -/

/-- abstract `next`: returns the first remaining position (`none` when empty) and removes it -/
theorem abs_next (rem : List Nat) : absStep .next rem = (.idx rem.head?, rem.tail) := rfl

/-- abstract `next_back`: returns the last remaining position (`none` when empty) and removes
it -/
theorem abs_nextBack (rem : List Nat) :
    absStep .nextBack rem = (.idx rem.getLast?, rem.dropLast) := rfl

/-- abstract `size_hint`: the exact number of remaining positions, state unchanged -/
theorem abs_sizeHint (rem : List Nat) :
    absStep .sizeHint rem = (.hint rem.length (some rem.length), rem) := rfl

/-- abstract `count` (on a clone): the number of remaining positions, state unchanged -/
theorem abs_count (rem : List Nat) : absStep .count rem = (.cnt rem.length, rem) := rfl

/-- running no operation returns no output -/
theorem absRun_nil (rem : List Nat) : absRun [] rem = ([], rem) := rfl

/-- running `op :: ops` performs `op`, then `ops` from the resulting state -/
theorem absRun_cons (op : Op) (ops : List Op) (rem : List Nat) :
    absRun (op :: ops) rem =
      ((absStep op rem).1 :: (absRun ops (absStep op rem).2).1, (absRun ops (absStep op rem).2).2) :=
  Api.absRun_cons op ops rem

/-- The abstract initial state is what it should be: exactly the positions of the haystack
holding a needle byte (`hay.mem.byteAt (hay.ptr + i)` is byte `i` of the haystack), in strictly
increasing order (hence without repetition). -/
theorem allMatches_spec (hay : Slice) (ns : Needles) :
    (allMatches hay ns).Pairwise (· < ·) ∧
    ∀ i, i ∈ allMatches hay ns ↔ i < hay.len ∧ ns.confirm (hay.mem.byteAt (hay.ptr + i)) = true :=
  Api.allMatches_spec hay ns

/-! ### what `OutsOk` demands -/

/-- a `next` / `next_back` result must equal the abstract one -/
theorem outOk_idx (o o' : Option Nat) : OutOk (.idx o) (.idx o') ↔ o = o' := Iff.rfl

/-- a `count` result must equal the abstract one -/
theorem outOk_cnt (k k' : Nat) : OutOk (.cnt k) (.cnt k') ↔ k = k' := Iff.rfl

/-- What is demanded of `size_hint`: against the abstract answer `.hint n _` (`n` = number of
matches still to come) the real `(lo, hi)` must have lower bound `lo = 0` (so `lo <= n`) and an
upper bound `hi = Some h` with `n <= h`. -/
theorem outOk_hint (lo : Nat) (hi : Option Nat) (n : Nat) (k : Option Nat) :
    OutOk (.hint lo hi) (.hint n k) ↔ lo = 0 ∧ ∃ h, hi = some h ∧ n ≤ h := Iff.rfl

/-- outputs of different kinds are never acceptable for each other (e.g. an index where a hint
is expected) -/
theorem outOk_mismatch (o : Option Nat) (lo : Nat) (hi : Option Nat) (k : Nat) :
    ¬ OutOk (.idx o) (.hint lo hi) ∧ ¬ OutOk (.idx o) (.cnt k) ∧ ¬ OutOk (.hint lo hi) (.idx o) ∧
    ¬ OutOk (.hint lo hi) (.cnt k) ∧ ¬ OutOk (.cnt k) (.idx o) ∧ ¬ OutOk (.cnt k) (.hint lo hi) :=
  ⟨id, id, id, id, id, id⟩

/-- `OutsOk` relates the empty output list only to the empty one -/
theorem outsOk_nil (bs : List Out) : OutsOk [] bs ↔ bs = [] :=
  ⟨fun h => by cases h; rfl, fun h => h ▸ OutsOk.nil⟩

/-- `OutsOk` is pointwise `OutOk` (in particular both lists have the same length) -/
theorem outsOk_cons (a : Out) (as bs : List Out) :
    OutsOk (a :: as) bs ↔ ∃ b bs', bs = b :: bs' ∧ OutOk a b ∧ OutsOk as bs' :=
  ⟨fun h => by cases h with | cons h1 h2 => exact ⟨_, _, rfl, h1, h2⟩,
   fun ⟨_, _, e, h1, h2⟩ => e ▸ OutsOk.cons h1 h2⟩

/-! ### the refinement theorems -/

/-- `OneIter` / `TwoIter` / `ThreeIter` of EVERY backend's wrapper module: for every valid
haystack slice, every needle set, and EVERY finite sequence `ops` of `next` / `next_back` /
`size_hint` / `count` calls on a fresh iterator (every interleaving, every call history), the
run does not fault, its outputs are acceptable (`OutsOk`: equal, except that `size_hint` may
over-approximate from above) for those of the abstract iterator started on all match positions,
and the final real state represents the final abstract state. -/
theorem refines_backend (b : Backend) (ns : Needles) (hay : Slice) (hv : hay.Valid)
    (ops : List Op) (c : Ctr) :
    ∃ outs it' c', Iter.run (RawFns.ofBackend b ns hay.mem) ops (Iter.new hay) c
        = .ok (outs, it') c' ∧
      OutsOk outs (absRun ops (allMatches hay ns)).1 ∧
      Refines hay ns it' (absRun ops (allMatches hay ns)).2 :=
  run_refines hv (rawOk_ofBackend b ns hay.mem) ops (refines_new hay ns) c

/-- The public iterators `Memchr` / `Memchr2` / `Memchr3` (`memchr_iter`, `memchr2_iter`,
`memchr3_iter`, and their `.rev()` through `next_back`) under EVERY build / CPU configuration:
same statement as `refines_backend`. -/
theorem refines_cfg (cfg : Cfg) (ns : Needles) (hay : Slice) (hv : hay.Valid)
    (ops : List Op) (c : Ctr) :
    ∃ outs it' c', Iter.run (RawFns.ofCfg cfg ns hay.mem) ops (Iter.new hay) c
        = .ok (outs, it') c' ∧
      OutsOk outs (absRun ops (allMatches hay ns)).1 ∧
      Refines hay ns it' (absRun ops (allMatches hay ns)).2 :=
  run_refines hv (rawOk_ofCfg cfg ns hay.mem) ops (refines_new hay ns) c

/-- the only hypothesis (`hay.Valid`) is satisfiable by a non-trivial input: bytes 3..13 of a
40-byte region at an odd address -/
example : (⟨⟨0, 1001, Array.replicate 40 0⟩, 3, 10⟩ : Slice).Valid := by
  simp [Slice.Valid]

/-- "after the two ends meet returns None forever": from any iterator state that represents
the empty abstract state (which, by `refines_*`, is every state reached once `next` or
`next_back` has returned `None`, or once all matches have been handed out), EVERY further
sequence of calls, in any order, returns `None` from `next`/`next_back`, 0 from `count`, and
`(0, Some _)` from `size_hint`; nothing faults and the state stays empty. `RawOk f ns hay.mem`
says that `f` consists of correct raw routines; `Api.rawOk_ofBackend` / `Api.rawOk_ofCfg` prove it
for every backend / configuration. -/
theorem none_forever {f : RawFns} {ns : Needles} {hay : Slice} (hv : hay.Valid)
    (hf : RawOk f ns hay.mem) {it : Iter} (R : Refines hay ns it []) (ops : List Op) (c : Ctr) :
    ∃ outs it' c', Iter.run f ops it c = .ok (outs, it') c' ∧ Refines hay ns it' [] ∧
      ∀ o ∈ outs, o = .idx none ∨ o = .cnt 0 ∨ ∃ h, o = .hint 0 (some h) := by
  obtain ⟨outs, it', c', hrun, hok, R'⟩ := run_refines hv hf ops R c
  obtain ⟨hnil, habs⟩ := Api.absRun_nil ops
  rw [hnil] at R'
  exact ⟨outs, it', c', hrun, R', habs outs hok⟩

/-- the hypothesis `RawOk` of `none_forever` holds for the iterators of every backend and of
every configuration -/
theorem rawOk_everywhere (b : Backend) (cfg : Cfg) (ns : Needles) (m : Mem) :
    RawOk (RawFns.ofBackend b ns m) ns m ∧ RawOk (RawFns.ofCfg cfg ns m) ns m :=
  ⟨Api.rawOk_ofBackend b ns m, Api.rawOk_ofCfg cfg ns m⟩

/-- the hypothesis `Refines hay ns it []` of `none_forever` is satisfiable: a fresh iterator
over a haystack without any match (here: the empty haystack) -/
example : Refines ⟨⟨0, 1001, Array.replicate 40 0⟩, 3, 0⟩ ⟨1, []⟩
    (Iter.new ⟨⟨0, 1001, Array.replicate 40 0⟩, 3, 0⟩) [] :=
  Api.refines_new _ _

/-- `size_hint` at every reachable point, directly on the real iterator: in any state `it`
representing the abstract state `rem` (by `refines_*`: every state reachable from a fresh
iterator), `size_hint()` is `(0, Some h)` with `rem.length <= h`, i.e. lower bound <= matches
still to come <= upper bound. -/
theorem size_hint_bounds {hay : Slice} {ns : Needles} {it : Iter} {rem : List Nat}
    (R : Refines hay ns it rem) :
    it.sizeHint.1 = 0 ∧ ∃ h, it.sizeHint.2 = some h ∧ rem.length ≤ h :=
  ⟨rfl, _, rfl, R.length_le⟩

/-! ### every match exactly once, without the abstract iterator -/

/-- The property in one equation on the REAL outputs (public iterators, every configuration).
`Bridge2.fronts ops outs` is the list of positions returned by the `next` calls of the run, in
call order; `Bridge2.backs ops outs` the list returned by the `next_back` calls, in call order;
`rem` the match positions inside the final window. Then

    fronts ++ rem ++ reverse backs  =  all match positions of the haystack, ascending.

Since that list is strictly increasing (`allMatches_spec`): `next` yields ascending positions,
`next_back` descending ones, nothing is yielded twice or by both ends, only matching positions
are yielded, and what was not yielded is exactly what is still inside the window. -/
theorem every_match_exactly_once_cfg (cfg : Cfg) (ns : Needles) (hay : Slice) (hv : hay.Valid)
    (ops : List Op) (c : Ctr) :
    ∃ outs it' c' rem, Iter.run (RawFns.ofCfg cfg ns hay.mem) ops (Iter.new hay) c
        = .ok (outs, it') c' ∧
      Refines hay ns it' rem ∧
      Bridge2.fronts ops outs ++ rem ++ (Bridge2.backs ops outs).reverse = allMatches hay ns :=
  Bridge2.run_partition hv (Api.rawOk_ofCfg cfg ns hay.mem) ops c

/-- the same for `OneIter`/`TwoIter`/`ThreeIter` of every backend -/
theorem every_match_exactly_once_backend (b : Backend) (ns : Needles) (hay : Slice)
    (hv : hay.Valid) (ops : List Op) (c : Ctr) :
    ∃ outs it' c' rem, Iter.run (RawFns.ofBackend b ns hay.mem) ops (Iter.new hay) c
        = .ok (outs, it') c' ∧
      Refines hay ns it' rem ∧
      Bridge2.fronts ops outs ++ rem ++ (Bridge2.backs ops outs).reverse = allMatches hay ns :=
  Bridge2.run_partition hv (Api.rawOk_ofBackend b ns hay.mem) ops c

/-- `fronts` / `backs` do what the docstring above says on a sample run: calls
`next, size_hint, next_back, next, next_back` with outputs `2, (0, 9), 7, 4, None` -/
example :
    Bridge2.fronts [.next, .sizeHint, .nextBack, .next, .nextBack]
      [.idx (some 2), .hint 0 (some 9), .idx (some 7), .idx (some 4), .idx none] = [2, 4] ∧
    Bridge2.backs [.next, .sizeHint, .nextBack, .next, .nextBack]
      [.idx (some 2), .hint 0 (some 9), .idx (some 7), .idx (some 4), .idx none] = [7] := by
  decide

/-- the public iterators of a configuration are literally the wrapper iterators of the backend
`select` picks (so `refines_cfg` is `refines_backend` at `b = select cfg`) -/
theorem cfg_iter_is_backend_iter (cfg : Cfg) (ns : Needles) (m : Mem) :
    RawFns.ofCfg cfg ns m = RawFns.ofBackend (select cfg) ns m :=
  Api.ofCfg_eq_ofBackend cfg ns m

end Memchr.Props.C06

#print axioms Memchr.Props.C06.abs_next
#print axioms Memchr.Props.C06.abs_nextBack
#print axioms Memchr.Props.C06.abs_sizeHint
#print axioms Memchr.Props.C06.abs_count
#print axioms Memchr.Props.C06.absRun_nil
#print axioms Memchr.Props.C06.absRun_cons
#print axioms Memchr.Props.C06.allMatches_spec
#print axioms Memchr.Props.C06.outOk_idx
#print axioms Memchr.Props.C06.outOk_cnt
#print axioms Memchr.Props.C06.outOk_hint
#print axioms Memchr.Props.C06.outOk_mismatch
#print axioms Memchr.Props.C06.outsOk_nil
#print axioms Memchr.Props.C06.outsOk_cons
#print axioms Memchr.Props.C06.refines_backend
#print axioms Memchr.Props.C06.refines_cfg
#print axioms Memchr.Props.C06.none_forever
#print axioms Memchr.Props.C06.rawOk_everywhere
#print axioms Memchr.Props.C06.size_hint_bounds
#print axioms Memchr.Props.C06.every_match_exactly_once_cfg
#print axioms Memchr.Props.C06.every_match_exactly_once_backend
#print axioms Memchr.Props.C06.cfg_iter_is_backend_iter
