/-
C10  Performance heuristics never change search results.

A substring finder returns the same results whether prefilters are disabled (`Prefilter::None`)
or automatic, and whatever byte-frequency ranker it is built with - including constant,
adversarial or non-injective rankers - for every needle and haystack.  The adaptive decision to
stop using a prefilter mid-search is likewise invisible in the results.

How the clauses of the property map onto this file

  prefilter setting and ranker do not matter (nor does the        `find_indep_all` (searcher level),
    configuration, C09): two searchers for one needle built         `builder_indep_all` (API level)
    with ANY two settings return the same value
  "the adaptive decision is invisible": the two searches may      `find_indep_all` (the two
    start from ANY two `PrefilterState`s - the state is the         states `st`, `st'`)
    whole history of candidate hits / misses that moves the
    prefilter between effective and inert - and still agree
  the adaptive decision itself never faults, in any state         `is_effective_total`
  the branches that never reach Two-Way, on their own             `find_indep`
  the ranker / prefilter setting only ever enter `Searcher::new`  `new_eq_of_vecKind`
    next to a summary `vecKind` of the configuration

The common value is the leftmost occurrence (`Props/C03`, `find_all`: each of the two runs
returns `Spec.leftmost`); here only the agreement is stated, which is what C10 asks.  That the
prefilter state carried by a `find_iter` across calls, and by a reused `Finder`, never shows
either is `Props/C08` (`find_iter_all`) and `Props/C16`.

The ranker is an arbitrary function `UInt8 → UInt8` (all 256^256 of them: constant 0, constant
255, identity, reversed, rankers that make the needle's bytes the most common, ...).  The only
hypotheses are `needle.Valid` and `hay.Valid`.

Only statements, one-line proofs from the master lemmas (`Proofs/Searcher.lean`,
`Proofs/MemmemFinder.lean`, `Proofs/Prefilter.lean`), non-vacuity examples and `#print axioms`.
-/
import MemchrModel.Proofs.MemmemFinder
import MemchrModel.Proofs.Prefilter

namespace Memchr.Props.C10

open Memchr.Memmem

/-- **Searcher level: prefilter setting, ranker, configuration and prefilter history are all
invisible.** For ANY two configurations `cfg`, `cfg'`, ANY two prefilter settings `pf`, `pf'`
(`None` / `Auto`), ANY two rankers, every valid needle and haystack, and ANY two prefilter states
`st`, `st'` (every history of the adaptive prefilter: fresh, effective after many skips, inert):
both constructions return normally, and the two searches return normally with the SAME value `v`
(the final prefilter states `t`, `t'` and the counters may differ). -/
theorem find_indep_all (cfg cfg' : Api.Cfg) (pf pf' : PrefilterConfig)
    (rank rank' : UInt8 → UInt8) (needle hay : Slice) (hn : needle.Valid) (hh : hay.Valid)
    (st st' : PrefilterState) (c c' : Ctr) :
    ∃ s s' c1 c1', Searcher.new cfg pf rank needle c = .ok s c1 ∧
      Searcher.new cfg' pf' rank' needle c' = .ok s' c1' ∧
      ∀ c2 c2', ∃ v t t' c3 c3', s.find cfg st hay needle c2 = .ok (v, t) c3 ∧
        s'.find cfg' st' hay needle c2' = .ok (v, t') c3' :=
  Memmem.C10.find_indep_all cfg cfg' pf pf' rank rank' needle hay hn hh st st' c c'

/-- **API level.** Two finders for the same needle built by ANY two `FinderBuilder`s (prefilter
`None` or `Auto`) with ANY two rankers in ANY two configurations: `find(haystack)` returns the
same value `v`, for every valid needle and haystack. -/
theorem builder_indep_all (cfg cfg' : Api.Cfg) (b b' : FinderBuilder)
    (rank rank' : UInt8 → UInt8) (needle hay : Slice) (hn : needle.Valid) (hh : hay.Valid)
    (c c' : Ctr) :
    ∃ v c1 c1', (b.buildForwardWithRanker cfg rank needle >>= fun f => f.find cfg hay) c =
        .ok v c1 ∧
      (b'.buildForwardWithRanker cfg' rank' needle >>= fun f => f.find cfg' hay) c' =
        .ok v c1' :=
  Memmem.C10.builder_indep_all cfg cfg' b b' rank rank' needle hay hn hh c c'

set_option linter.unusedVariables false in
/-- The same as `find_indep_all` for the branches of `Searcher::new` that never reach Two-Way, on
their own. `reachesTwoWay cfg needle` is "the needle has two or more bytes, and the configuration
has no vector packed-pair finder or the needle is outside `do_packed_search`'s 2..=32 bytes"; its
negation leaves the empty needle, one byte, and the packed vector searcher with its Rabin-Karp
path. This is the special case of `find_indep_all`: the proof does not use the hypotheses `hno`,
`hno'` that single these branches out. -/
theorem find_indep (cfg cfg' : Api.Cfg) (pf pf' : PrefilterConfig)
    (rank rank' : UInt8 → UInt8) (needle hay : Slice) (hn : needle.Valid) (hh : hay.Valid)
    (hno : ¬ reachesTwoWay cfg needle) (hno' : ¬ reachesTwoWay cfg' needle)
    (st st' : PrefilterState) (c c' : Ctr) :
    ∃ s s' c1 c1', Searcher.new cfg pf rank needle c = .ok s c1 ∧
      Searcher.new cfg' pf' rank' needle c' = .ok s' c1' ∧
      ∀ c2 c2', ∃ v t t' c3 c3', s.find cfg st hay needle c2 = .ok (v, t) c3 ∧
        s'.find cfg' st' hay needle c2' = .ok (v, t') c3' :=
  Memmem.C10.find_indep_all cfg cfg' pf pf' rank rank' needle hay hn hh st st' c c'

/-- `Searcher::new` looks at the build / CPU configuration only through `vecKind cfg` (which
vector packed-pair finder is available, if any): two configurations with the same `vecKind`
build the same searcher - same value, same steps, same faults - for every prefilter setting,
ranker and needle. So the heuristics (ranker, prefilter setting) interact with nothing else. -/
theorem new_eq_of_vecKind (cfg cfg' : Api.Cfg) (h : vecKind cfg = vecKind cfg')
    (pf : PrefilterConfig) (rank : UInt8 → UInt8) (n : Slice) :
    Searcher.new cfg pf rank n = Searcher.new cfg' pf rank n :=
  Searcher.new_eq_of_vecKind cfg cfg' h pf rank n

/-- **The adaptive decision never faults.** `PrefilterState::is_effective` returns normally from
EVERY state (all `2^64` values of `skips`, `skipped`), leaving the counters untouched: it
answers `b` and possibly switches the state to inert. (This is where defect F1 was: the `u32`
product `MIN_SKIP_BYTES * skips` overflowed; see `Props/C14`.) -/
theorem is_effective_total (s : PrefilterState) (c : Ctr) :
    ∃ b s', s.isEffective c = .ok (b, s') c :=
  PrefilterState.isEffective_total s c

/-! ### the hypotheses are satisfiable, the quantified domains are not trivial -/

/-- valid slices: a 40-byte needle (a Two-Way-with-prefilter branch, where ranker, prefilter
setting and prefilter state all matter to the code path) and a 100-byte haystack -/
example : (Slice.ofMem ⟨1, 64, Array.replicate 40 97⟩).Valid ∧
    (Slice.ofMem ⟨0, 4096, Array.replicate 100 97⟩).Valid := by
  simp [Slice.Valid, Slice.ofMem]

/-- prefilter states on both sides of the adaptive decision: the fresh state is not inert, the
state `skips = 0` is; and rankers that are constant, or not injective, are rankers -/
example : PrefilterState.new.isInert = false ∧ (⟨0, 0⟩ : PrefilterState).isInert = true ∧
    (∃ rank : UInt8 → UInt8, ∀ b, rank b = 0) ∧ (∃ rank : UInt8 → UInt8, ∀ b, rank b = 255) :=
  ⟨by decide, by decide, ⟨fun _ => 0, fun _ => rfl⟩, ⟨fun _ => 255, fun _ => rfl⟩⟩

/-- the side conditions of `find_indep` are satisfiable: a one-byte needle never reaches
Two-Way, in any configuration -/
example (cfg : Api.Cfg) : ¬ reachesTwoWay cfg (Slice.ofMem ⟨1, 64, #[97]⟩) :=
  fun h => absurd h.1 (by decide)

/-- two different configurations with the same `vecKind` (hypothesis of `new_eq_of_vecKind`):
x86_64 + SSE2 with AVX2 detected at run time, and with AVX2 enabled at compile time -/
example : vecKind { arch := .x86_64, ctSse2 := true, ctAvx2 := false, ctNeon := false,
                    std := true, cpuAvx2 := true } =
    vecKind { arch := .x86_64, ctSse2 := true, ctAvx2 := true, ctNeon := false,
              std := false, cpuAvx2 := false } := by
  decide

end Memchr.Props.C10

#print axioms Memchr.Props.C10.find_indep_all
#print axioms Memchr.Props.C10.builder_indep_all
#print axioms Memchr.Props.C10.find_indep
#print axioms Memchr.Props.C10.new_eq_of_vecKind
#print axioms Memchr.Props.C10.is_effective_total
