/-
C11  Candidate prefilters never skip a real match.

For the generic (vector) packed-pair prefilter on every lawful vector type - and its SSE2,
AVX2, NEON and simd128 instances - and for the portable prefilter
(`src/arch/all/packedpair/mod.rs`): whenever the needle occurs in the haystack the prefilter
returns a candidate no greater than the first occurrence; `None` only if the needle does not
occur; a returned candidate is a position where the two selected needle bytes are present at
their offsets.

The portable prefilter calls `memchr`; its theorems are parametric in a `memchr` that is
assumed to return the first position of the byte (`Fallback.MemchrOk memchr K`; the hypothesis
is kept explicit), and are instantiated with the specification `Fallback.specMemchr`.

The last section covers the prefilter strategies as the substring meta searcher
(`src/memmem/searcher.rs`) actually runs them: `Prefilter::find` for EVERY strategy
`Searcher::new` builds - the vector kinds on haystacks of at least `min_haystack_len()` bytes,
their PRIVATE short-haystack path `Prefilter::find_simple` (first position of the rarest byte
minus its needle offset) below that, and the portable kind with the crate's real, dispatched
`memchr` of every configuration (no hypothesis about `memchr` left) - in the form Two-Way
consumes (`PreSound`, unfolded in `pre_sound_iff`).

Only statements, short proofs from the master lemmas, non-vacuity examples and
`#print axioms`.
-/
import MemchrModel.Proofs.PackedPair
import MemchrModel.Proofs.Sensible
import MemchrModel.Proofs.Neon
import MemchrModel.Proofs.PairFallback
import MemchrModel.Proofs.Searcher

namespace Memchr.Props.C11

/-! ### generic vector prefilter (`src/arch/generic/packedpair.rs`) -/

/-- The statement of C11 for one vector type `V`. For every valid haystack and needle, every
pair of distinct in-range needle offsets `i1 ≠ i2` (in either order), the finder `f` returned
by `Finder::new(needle, Pair{i1, i2})`, every haystack of at least `f.min_haystack_len` bytes
and every counter state, `find_prefilter(haystack)`
* returns normally (no fault of any kind);
* a returned candidate `x` has both pair positions inside the haystack and
  `hay[x + i1] = needle[i1]`, `hay[x + i2] = needle[i2]`;
* for EVERY occurrence `q` of the needle (in particular the first one, wherever it lies,
  including the last overlapping chunk and the final `needle.len()` bytes) the result is
  `Some(x)` with `x <= q`;
* hence `None` implies that the needle does not occur;
* it costs `x / BYTES + 1` steps for `Some(x)` and `(len - min_haystack_len) / BYTES + 2` for
  `None`. -/
def PrefilterNeverSkips (V : VecImpl) : Prop :=
  ∀ (hay needle : Slice), hay.Valid → needle.Valid →
  ∀ (i1 i2 : Nat), i1 ≠ i2 → i1 < needle.len → i2 < needle.len →
  ∀ (f : PackedPair.Finder) (c0 c0' : Ctr), PackedPair.Finder.new V needle i1 i2 c0 = .ok f c0' →
  f.minHaystackLen ≤ hay.len →
  ∀ (c : Ctr),
    ∃ r c', PackedPair.findPrefilter V f hay c = .ok r c' ∧
      (∀ x, r = some x → x + max i1 i2 < hay.len ∧
        hay.toArray[x + i1]? = needle.toArray[i1]? ∧
        hay.toArray[x + i2]? = needle.toArray[i2]?) ∧
      (∀ q, Spec.OccAt hay.toArray needle.toArray q → ∃ x, r = some x ∧ x ≤ q) ∧
      (r = none → ∀ q, ¬ Spec.OccAt hay.toArray needle.toArray q) ∧
      c'.steps ≤ c.steps + PackedPair.preCost' V f hay r

/-- C11 holds for the generic packed-pair prefilter on EVERY lawful vector type. -/
theorem generic_prefilter_never_skips (V : VecImpl) (L : Lawful V) : PrefilterNeverSkips V :=
  PackedPair.findPrefilter_sound L

/-- C11 for the SSE2 prefilter (`src/arch/x86_64/sse2/packedpair.rs`, 16-byte vectors). -/
theorem sse2_prefilter_never_skips : PrefilterNeverSkips Sensible.sse2 :=
  generic_prefilter_never_skips Sensible.sse2 Sensible.lawful_sse2

/-- C11 for the AVX2 prefilter (`src/arch/x86_64/avx2/packedpair.rs`, 32-byte vectors). -/
theorem avx2_prefilter_never_skips : PrefilterNeverSkips Sensible.avx2 :=
  generic_prefilter_never_skips Sensible.avx2 Sensible.lawful_avx2

/-- C11 for the NEON prefilter (`src/arch/aarch64/neon/packedpair.rs`, nibble masks). -/
theorem neon_prefilter_never_skips : PrefilterNeverSkips Neon.impl :=
  generic_prefilter_never_skips Neon.impl Neon.lawful

/-- C11 for the simd128 prefilter (`src/arch/wasm32/simd128/packedpair.rs`). -/
theorem simd128_prefilter_never_skips : PrefilterNeverSkips Sensible.simd128 :=
  generic_prefilter_never_skips Sensible.simd128 Sensible.lawful_simd128

/-- The exact value of the vector prefilter, for EVERY finder value with distinct indices whose
`min_haystack_len` covers both loads (`FinderOk`; not only those built from a needle), every
lawful `V` and every valid haystack of at least `min_haystack_len` bytes: the LOWEST offset
among the scanned ones `0 .. len - min_haystack_len + BYTES - 1` where the finder's byte pair
matches (`PreRes'`), `None` iff there is none. -/
theorem generic_prefilter_exact (V : VecImpl) (L : Lawful V) (f : PackedPair.Finder)
    (hok : PackedPair.FinderOk V f) (hay : Slice) (hh : hay.Valid)
    (hlen : f.minHaystackLen ≤ hay.len) (c : Ctr) :
    ∃ r c', PackedPair.findPrefilter V f hay c = .ok r c' ∧ PackedPair.PreRes' V f hay r ∧
      c'.steps ≤ c.steps + PackedPair.preCost' V f hay r :=
  PackedPair.findPrefilter_spec L f hok hay hh hlen c

/-- hypotheses are satisfiable (SSE2): needle "abcdefgh", pair `(0, 7)`, finder with
`min_haystack_len = 23`, a 40-byte haystack holding the needle at offset 21 (i.e. inside the
last, overlapping chunk) -/
example : PackedPair.exHay.Valid ∧ PackedPair.exNeedle.Valid ∧ (0 : Nat) ≠ 7 ∧
    0 < PackedPair.exNeedle.len ∧ 7 < PackedPair.exNeedle.len ∧
    PackedPair.Finder.new Sensible.sse2 PackedPair.exNeedle 0 7 {} =
      .ok (PackedPair.mkFinder Sensible.sse2 PackedPair.exNeedle 0 7) {} ∧
    (PackedPair.mkFinder Sensible.sse2 PackedPair.exNeedle 0 7).minHaystackLen ≤
      PackedPair.exHay.len :=
  ⟨Slice.ofMem_valid _, Slice.ofMem_valid _, by decide,
   Nat.lt_trans (by decide) PackedPair.exNeedle_lt, PackedPair.exNeedle_lt, PackedPair.exNew _,
   PackedPair.exMin_le _ (by decide)⟩

/-! ### portable prefilter (`src/arch/all/packedpair/mod.rs`) -/

/-- C11 for the portable prefilter, for EVERY `memchr` implementation that returns the first
position of the byte within `scanned + K` steps (`MemchrOk memchr K`, explicit hypothesis),
every valid needle and haystack (ANY lengths: there is no minimum haystack length) and every
pair `p` valid for the needle (two distinct in-range `u8` offsets, as `Pair::new`,
`Pair::with_ranker`, `Pair::with_indices` return; `index1 > index2` allowed):
(a) `Finder::with_pair` builds a finder and `find_prefilter` returns normally;
(b) an answer `Some(a)` has `hay[a + index1] = needle[index1]` and
    `hay[a + index2] = needle[index2]`, both in range;
(c) every occurrence `q` of the needle forces an answer `Some(a)` with `a <= q`;
(d) hence `None` implies that the needle does not occur;
(e) at most `(K + 2) * haystack.len() + K + 1` steps. -/
theorem fallback_prefilter_never_skips {memchr : UInt8 → Slice → M (Option Nat)} {K : Nat}
    (hm : Fallback.MemchrOk memchr K) (needle hay : Slice) (hvn : needle.Valid) (hvh : hay.Valid)
    (p : Pair) (hp : p.ValidFor needle) (c : Ctr) :
    ∃ f r c', Fallback.withPair needle p c = .ok (some f) c ∧
      Fallback.findPrefilter memchr f hay c = .ok r c' ∧
      (∀ a, r = some a →
        a + p.index1.toNat < hay.len ∧
        hay.getD (a + p.index1.toNat) = needle.getD p.index1.toNat ∧
        a + p.index2.toNat < hay.len ∧
        hay.getD (a + p.index2.toNat) = needle.getD p.index2.toNat) ∧
      (∀ q, Spec.OccAt hay.toArray needle.toArray q → ∃ a, r = some a ∧ a ≤ q) ∧
      (r = none → ∀ q, ¬ Spec.OccAt hay.toArray needle.toArray q) ∧
      c'.steps ≤ c.steps + (K + 2) * hay.len + K + 1 :=
  Fallback.findPrefilter_sound hm needle hay hvn hvh p hp c

/-- The specification `memchr` (returns `Spec.firstIdx` at no cost) satisfies the hypothesis
`MemchrOk` with `K = 0`, so the hypothesis of the previous theorem is not vacuous. -/
theorem spec_memchr_ok : Fallback.MemchrOk Fallback.specMemchr 0 :=
  Fallback.specMemchr_ok

/-- `fallback_prefilter_never_skips` instantiated with the specification `memchr` (`K = 0`):
no hypothesis about `memchr` is left; the step bound becomes `2 * haystack.len() + 1`. -/
theorem fallback_prefilter_never_skips_spec (needle hay : Slice) (hvn : needle.Valid)
    (hvh : hay.Valid) (p : Pair) (hp : p.ValidFor needle) (c : Ctr) :
    ∃ f r c', Fallback.withPair needle p c = .ok (some f) c ∧
      Fallback.findPrefilter Fallback.specMemchr f hay c = .ok r c' ∧
      (∀ a, r = some a →
        a + p.index1.toNat < hay.len ∧
        hay.getD (a + p.index1.toNat) = needle.getD p.index1.toNat ∧
        a + p.index2.toNat < hay.len ∧
        hay.getD (a + p.index2.toNat) = needle.getD p.index2.toNat) ∧
      (∀ q, Spec.OccAt hay.toArray needle.toArray q → ∃ a, r = some a ∧ a ≤ q) ∧
      (r = none → ∀ q, ¬ Spec.OccAt hay.toArray needle.toArray q) ∧
      c'.steps ≤ c.steps + (0 + 2) * hay.len + 0 + 1 :=
  Fallback.findPrefilter_sound Fallback.specMemchr_ok needle hay hvn hvh p hp c

/-- The exact value of the portable prefilter for EVERY finder value (any pair, any two bytes)
and every valid haystack, given a correct `memchr`: the LEAST candidate offset (`PreRes`: both
pair positions in range and holding the finder's bytes), `None` iff there is no candidate. -/
theorem fallback_prefilter_exact {memchr : UInt8 → Slice → M (Option Nat)} {K : Nat}
    (hm : Fallback.MemchrOk memchr K) (f : Fallback.Finder) (hay : Slice) (hv : hay.Valid)
    (c : Ctr) :
    ∃ r c', Fallback.findPrefilter memchr f hay c = .ok r c' ∧
      Fallback.PreRes f.byte1 f.byte2 f.pair.index1.toNat f.pair.index2.toNat hay r ∧
      c'.steps ≤ c.steps + (K + 2) * hay.len + K + 1 :=
  Fallback.findPrefilter_correct hm f hay hv c

/-- hypotheses are satisfiable: needle "abcab" with the pair `(2, 0)` (`index1 > index2`) and
the haystack "xxabcabxx" -/
example : (Slice.ofMem ⟨1, 64, #[97, 98, 99, 97, 98]⟩).Valid ∧
    (Slice.ofMem ⟨0, 4096, #[120, 120, 97, 98, 99, 97, 98, 120, 120]⟩).Valid ∧
    Pair.ValidFor ⟨2, 0⟩ (Slice.ofMem ⟨1, 64, #[97, 98, 99, 97, 98]⟩) :=
  ⟨Slice.ofMem_valid _, Slice.ofMem_valid _, ⟨by decide, by decide, by decide⟩⟩

/-! ### the prefilter strategies of the substring meta searcher (`src/memmem/searcher.rs`) -/

/-- **What "sound" means** (`Memmem.PreSound x strat`, the contract between a prefilter strategy
and Two-Way, for needle bytes `x`): on EVERY valid haystack slice the strategy returns normally,
and every occurrence `q` of the needle in that slice forces an answer `Some(a)` with `a <= q` -
a candidate no greater than the first occurrence; so `None` is only possible when the needle
does not occur (`pre_sound_none`). -/
theorem pre_sound_iff (x : Array UInt8) (strat : Slice → M (Option Nat)) :
    Memmem.PreSound x strat ↔
      ∀ (hay : Slice), hay.Valid → ∀ c, ∃ r c', strat hay c = .ok r c' ∧
        ∀ q, Spec.OccAt hay.toArray x q → ∃ a, r = some a ∧ a ≤ q :=
  Iff.rfl

/-- A sound strategy answers `None` only if the needle occurs nowhere in the haystack. -/
theorem pre_sound_none {x : Array UInt8} {strat : Slice → M (Option Nat)}
    (h : Memmem.PreSound x strat) (hay : Slice) (hv : hay.Valid) (c c' : Ctr)
    (hr : strat hay c = .ok none c') (q : Nat) : ¬ Spec.OccAt hay.toArray x q := by
  intro ho
  obtain ⟨a, ha, _⟩ := Holds.of_run (h hay hv c) hr q ho
  cases ha

/-- **Every prefilter strategy of the meta searcher never skips a match, on every haystack.**
For every configuration, every valid needle `n` and every `Prefilter` value `p` as
`Prefilter::fallback` / `Prefilter::sse2 / avx2 / neon / simd128` build it for `n`
(`Prefilter.GoodFor n p`: `rarest_byte` is the needle byte at `rarest_offset`, and the wrapped
finder was built from a pair valid for `n`; by `searcher_new_prefilter_sound` every prefilter
inside a searcher returned by `Searcher::new` is such a value): `Prefilter::find(haystack)` on
EVERY valid haystack (any length - in particular shorter than the vector finder's
`min_haystack_len()`, where the private `find_simple` runs) returns normally, and every
occurrence `q` of the needle forces an answer `Some(a)` with `a <= q`. -/
theorem searcher_prefilter_sound (cfg : Api.Cfg) {n : Slice} (hn : n.Valid)
    {p : Memmem.Prefilter} (hg : p.GoodFor n) :
    ∀ (hay : Slice), hay.Valid → ∀ c, ∃ r c', p.find cfg hay c = .ok r c' ∧
      ∀ q, Spec.OccAt hay.toArray n.toArray q → ∃ a, r = some a ∧ a ≤ q :=
  Memmem.Prefilter.find_sound cfg hn hg

/-- **The private short-haystack path `Prefilter::find_simple`** (portable SWAR `memchr` for
`rarest_byte`, then `saturating_sub(rarest_offset)`), for every valid needle and every
`Prefilter` whose `rarest_offset` lies inside the needle and whose `rarest_byte` is the needle
byte there: on EVERY valid haystack (any length, the empty one included) it returns normally and
every occurrence `q` of the needle forces an answer `Some(a)` with `a <= q`. -/
theorem find_simple_sound (needle : Slice) (hvn : needle.Valid) (p : Memmem.Prefilter)
    (hoff : p.rarestOffset.toNat < needle.len)
    (hbyte : p.rarestByte = needle.getD p.rarestOffset.toNat) :
    ∀ (hay : Slice), hay.Valid → ∀ c, ∃ r c', p.findSimple hay c = .ok r c' ∧
      ∀ q, Spec.OccAt hay.toArray needle.toArray q → ∃ a, r = some a ∧ a ≤ q :=
  fun hay hh c =>
    let ⟨r, c', e, hs, _⟩ := Memmem.findSimple_run needle hvn p hoff hbyte hay hh c
    ⟨r, c', e, hs⟩

/-- **The portable prefilter with the crate's own `memchr`**, as the meta searcher calls it
(`prefilter_kind_fallback`): for EVERY configuration `cfg` (whichever backend its dispatched
`memchr` selects), every valid needle, and every portable finder holding a pair valid for the
needle and the needle's bytes at the pair's offsets: sound on every valid haystack. This removes
the `MemchrOk` hypothesis of `fallback_prefilter_never_skips` for the real `memchr`. -/
theorem fallback_prefilter_dispatched_memchr_sound (cfg : Api.Cfg) (needle : Slice)
    (hvn : needle.Valid) (f : Fallback.Finder) (hp : f.pair.ValidFor needle)
    (hb1 : f.byte1 = needle.getD f.pair.index1.toNat)
    (hb2 : f.byte2 = needle.getD f.pair.index2.toNat) :
    ∀ (hay : Slice), hay.Valid → ∀ c, ∃ r c',
      Fallback.findPrefilter (Memmem.topMemchr cfg) f hay c = .ok r c' ∧
      ∀ q, Spec.OccAt hay.toArray needle.toArray q → ∃ a, r = some a ∧ a ≤ q :=
  fun hay hh c =>
    let ⟨r, c', e, hs, _⟩ := Memmem.fallback_run cfg needle hvn f hp hb1 hb2 hay hh c
    ⟨r, c', e, hs⟩

/-- **The per-ISA wrapper types** `<isa>::packedpair::Finder::find_prefilter` (SSE2, AVX2 - which
routes haystacks shorter than its 32-byte finder's minimum to its SSE2 finder -, NEON, simd128)
for a wrapper built by `with_pair(needle, pair)` from a pair valid for the needle
(`VecFinder.GoodFor`), on every valid haystack of at least `min_haystack_len()` bytes: returns
normally and never skips an occurrence. -/
theorem vec_wrapper_prefilter_sound {n : Slice} {vf : Memmem.VecFinder} (hg : vf.GoodFor n)
    (hay : Slice) (hh : hay.Valid) (hn : n.Valid) (hlen : vf.minHaystackLen ≤ hay.len) (c : Ctr) :
    ∃ r c', vf.findPrefilter hay c = .ok r c' ∧
      ∀ q, Spec.OccAt hay.toArray n.toArray q → ∃ a, r = some a ∧ a ≤ q :=
  let ⟨r, c', e, hs, _⟩ := Memmem.VecFinder.findPrefilter_spec hg hay hh hn hlen c
  ⟨r, c', e, hs⟩

/-- **Every prefilter `Searcher::new` hands to Two-Way is sound.** For every configuration,
prefilter setting, ranker (any function `u8 -> u8`: the ranker only chooses WHICH two needle
bytes the prefilter looks for) and valid needle: `Searcher::new` returns normally, and if the
searcher it returns is of the kind `TwoWayWithPrefilter { finder, prestrat }` then `prestrat` is
a `GoodFor` value and its `find` is sound under that configuration. -/
theorem searcher_new_prefilter_sound (cfg : Api.Cfg) (pf : Memmem.PrefilterConfig)
    (rank : UInt8 → UInt8) (n : Slice) (hn : n.Valid) (c : Ctr) :
    ∃ s c', Memmem.Searcher.new cfg pf rank n c = .ok s c' ∧
      ∀ tw p, s.kind = .twoWayWithPrefilter tw p →
        p.GoodFor n ∧ Memmem.PreSound n.toArray (p.find cfg) := by
  obtain ⟨s, c', h, hg⟩ := Memmem.Searcher.new_ok cfg pf rank n hn c
  refine ⟨s, c', h, fun tw p hk => ?_⟩
  have h2 := hg.2
  rw [hk] at h2
  exact ⟨h2.2.2, Memmem.Prefilter.find_sound cfg hn h2.2.2⟩

/-- hypotheses are satisfiable: for the needle "abcab" a `Prefilter` of the portable kind with
the pair `(2, 0)` - `rarest_offset = 2`, `rarest_byte = b'c'` - is `GoodFor` the needle (and so
satisfies the hypotheses of `find_simple_sound` and
`fallback_prefilter_dispatched_memchr_sound` too) -/
example :
    let needle := Slice.ofMem ⟨1, 64, #[97, 98, 99, 97, 98]⟩
    let p : Memmem.Prefilter :=
      { kind := .fallback { pair := ⟨2, 0⟩, byte1 := 99, byte2 := 97 },
        rarestByte := 99, rarestOffset := 2 }
    needle.Valid ∧ p.GoodFor needle :=
  ⟨Slice.ofMem_valid _, by decide, by decide, ⟨by decide, by decide, by decide⟩,
    by decide, by decide⟩

end Memchr.Props.C11

#print axioms Memchr.Props.C11.generic_prefilter_never_skips
#print axioms Memchr.Props.C11.sse2_prefilter_never_skips
#print axioms Memchr.Props.C11.avx2_prefilter_never_skips
#print axioms Memchr.Props.C11.neon_prefilter_never_skips
#print axioms Memchr.Props.C11.simd128_prefilter_never_skips
#print axioms Memchr.Props.C11.generic_prefilter_exact
#print axioms Memchr.Props.C11.fallback_prefilter_never_skips
#print axioms Memchr.Props.C11.spec_memchr_ok
#print axioms Memchr.Props.C11.fallback_prefilter_never_skips_spec
#print axioms Memchr.Props.C11.fallback_prefilter_exact
#print axioms Memchr.Props.C11.pre_sound_iff
#print axioms Memchr.Props.C11.pre_sound_none
#print axioms Memchr.Props.C11.searcher_prefilter_sound
#print axioms Memchr.Props.C11.find_simple_sound
#print axioms Memchr.Props.C11.fallback_prefilter_dispatched_memchr_sound
#print axioms Memchr.Props.C11.vec_wrapper_prefilter_sound
#print axioms Memchr.Props.C11.searcher_new_prefilter_sound
