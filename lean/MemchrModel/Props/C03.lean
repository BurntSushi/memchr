/-
C03  Forward substring search returns exactly the leftmost occurrence.

For every haystack and needle, `memmem::find`, `Finder::find` and a finder built by
`FinderBuilder` return `Some(i)` where `i` is the smallest offset with
`haystack[i..i + needle.len()] == needle`, and `None` exactly when the needle does not occur.
The empty needle matches at offset 0 of every haystack, including the empty one.

How the clauses of the property map onto this file

  what "the leftmost occurrence" means (the specification        `spec_some_iff`, `spec_none_iff`,
    `Spec.leftmost`: `Some(i)` iff the needle occurs at `i`        `spec_empty`
    and at no smaller offset; `None` iff it occurs nowhere)
  the meta searcher `Searcher::new(..).find(..)` of               `find_all` (every branch),
    `src/memmem/searcher.rs`, every configuration, prefilter      `find` (the branches that never
    setting, ranker, needle, haystack AND prefilter state          reach Two-Way, on their own)
  `FinderBuilder::build_forward_with_ranker(..).find(..)`,        `builder_find_all`,
    `Finder::new(needle).find(haystack)`                           `finder_find_all`
  the one-shot `memmem::find(haystack, needle)`                   `oneshot_all`
  the empty needle                                                `find_empty`, `oneshot_empty`
  the Two-Way searcher behind needles the vector searcher does    `twoway_find_correct`
    not own (with any sound prefilter, in any prefilter state)

A conclusion `run = .ok v c'` says the run returns normally with the value `v`: no panic, debug
assertion, overflow, out-of-bounds read, misaligned load or out-of-allocation pointer.  The only
hypotheses are `needle.Valid` and `hay.Valid` ("the slice lies inside its memory region", which
every Rust `&[u8]` does); they are satisfiable by the examples below.

Only statements, short proofs from the master lemmas (`Proofs/Searcher.lean`,
`Proofs/MemmemFinder.lean`, `Proofs/TwoWayCert.lean`), non-vacuity examples and `#print axioms`.
-/
import MemchrModel.Proofs.MemmemFinder

namespace Memchr.Props.C03

open Memchr.Memmem

/-! ### what the specification `Spec.leftmost` means -/

/-- `Spec.leftmost hay needle = Some(r)` exactly when the needle occurs at offset `r`
(`OccAt`: `r + needle.len() <= hay.len()` and `hay[r + k] = needle[k]` for every
`k < needle.len()`) and at no offset `j < r`: `r` is the SMALLEST offset of an occurrence. -/
theorem spec_some_iff (hay needle : Array UInt8) (r : Nat) :
    Spec.leftmost hay needle = some r ↔
      Spec.OccAt hay needle r ∧ ∀ j, j < r → ¬ Spec.OccAt hay needle j :=
  Spec.leftmost_eq_some_iff hay needle r

/-- `Spec.leftmost hay needle = None` exactly when the needle occurs at NO offset. -/
theorem spec_none_iff (hay needle : Array UInt8) :
    Spec.leftmost hay needle = none ↔ ∀ j, ¬ Spec.OccAt hay needle j :=
  Spec.leftmost_eq_none_iff hay needle

/-- For the empty needle the specification is `Some(0)`, for every haystack (the empty one
included: there is no hypothesis on `hay`). -/
theorem spec_empty (hay needle : Array UInt8) (h : needle.size = 0) :
    Spec.leftmost hay needle = some 0 :=
  Spec.leftmost_empty h

/-! ### the meta searcher -/

/-- **`Searcher::new(prefilter, ranker, needle)` then `Searcher::find(prestate, haystack,
needle)`, every branch.**  For EVERY build / CPU configuration `cfg`, prefilter setting
(`None` / `Auto`), ranker function `u8 -> u8`, valid needle and haystack (all lengths: empty
needle, one byte, 2..=32 bytes, longer; haystack shorter than the needle, shorter than 16 bytes,
shorter than the vector searcher's minimum, long), EVERY `PrefilterState` `st` (every history of
the adaptive prefilter) and every counter state: construction returns normally, and `find`
returns normally with exactly the leftmost occurrence (`Spec.leftmost`, see `spec_some_iff` /
`spec_none_iff`). `st'` is the prefilter state afterwards. -/
theorem find_all (cfg : Api.Cfg) (pf : PrefilterConfig) (rank : UInt8 → UInt8)
    (needle hay : Slice) (hn : needle.Valid) (hh : hay.Valid) (st : PrefilterState) (c : Ctr) :
    ∃ s c1, Searcher.new cfg pf rank needle c = .ok s c1 ∧ ∀ c2, ∃ st' c3,
      s.find cfg st hay needle c2 = .ok (Spec.leftmost hay.toArray needle.toArray, st') c3 :=
  Memmem.C03.find_all cfg pf rank needle hay hn hh st c

/-- The branches of `Searcher::new` that never reach Two-Way, on their own: the empty needle, a
one-byte needle (the dispatched `memchr`), and needles of 2..=32 bytes (`do_packed_search`) when
the configuration has a vector packed-pair finder (`vecKind cfg` is `Some`), including their
Rabin-Karp path for haystacks shorter than the finder's `min_haystack_len`. Same conclusion as
`find_all`, of which this is the special case: the proof does not need `hbranch`. -/
theorem find (cfg : Api.Cfg) (pf : PrefilterConfig) (rank : UInt8 → UInt8)
    (needle hay : Slice) (hn : needle.Valid) (hh : hay.Valid)
    (hbranch : needle.len ≤ 1 ∨ ((vecKind cfg).isSome = true ∧ doPackedSearch needle = true))
    (st : PrefilterState) (c : Ctr) :
    ∃ s c1, Searcher.new cfg pf rank needle c = .ok s c1 ∧ ∀ c2, ∃ st' c3,
      s.find cfg st hay needle c2 = .ok (Spec.leftmost hay.toArray needle.toArray, st') c3 :=
  Memmem.C03.find cfg pf rank needle hay hn hh hbranch st c

/-- **The empty needle matches at offset 0 of every haystack, including the empty one**: for
every configuration, prefilter setting, ranker, prefilter state and every valid haystack (no
lower bound on `hay.len`), the searcher built for a zero-length needle returns `Some(0)`. -/
theorem find_empty (cfg : Api.Cfg) (pf : PrefilterConfig) (rank : UInt8 → UInt8)
    (needle hay : Slice) (hn : needle.Valid) (hh : hay.Valid) (h0 : needle.len = 0)
    (st : PrefilterState) (c : Ctr) :
    ∃ s c1, Searcher.new cfg pf rank needle c = .ok s c1 ∧ ∀ c2, ∃ st' c3,
      s.find cfg st hay needle c2 = .ok (some 0, st') c3 := by
  have := find_all cfg pf rank needle hay hn hh st c
  rwa [Spec.leftmost_empty (by rw [Slice.toArray_size hn]; exact h0)] at this

/-! ### the public API: `FinderBuilder`, `Finder`, `memmem::find` -/

/-- **A finder built by `FinderBuilder`** (any builder value `b`, i.e. prefilter `None` or
`Auto`; any ranker: `build_forward_with_ranker`), in every configuration, for every valid needle
and haystack: building and then `Finder::find(haystack)` return normally with exactly the
leftmost occurrence. -/
theorem builder_find_all (cfg : Api.Cfg) (b : FinderBuilder) (rank : UInt8 → UInt8)
    (needle hay : Slice) (hn : needle.Valid) (hh : hay.Valid) (c : Ctr) :
    ∃ c', (b.buildForwardWithRanker cfg rank needle >>= fun f => f.find cfg hay) c =
      .ok (Spec.leftmost hay.toArray needle.toArray) c' :=
  Memmem.C03.builder_find_all cfg b rank needle hay hn hh c

/-- **`Finder::new(needle).find(haystack)`** (the default builder and the default byte-frequency
ranker), every configuration, valid needle and haystack: exactly the leftmost occurrence. -/
theorem finder_find_all (cfg : Api.Cfg) (needle hay : Slice) (hn : needle.Valid) (hh : hay.Valid)
    (c : Ctr) :
    ∃ c', (Finder.new cfg needle >>= fun f => f.find cfg hay) c =
      .ok (Spec.leftmost hay.toArray needle.toArray) c' :=
  Memmem.C03.finder_find cfg needle hay hn hh c

/-- **The one-shot `memmem::find(haystack, needle)`**, every configuration, valid needle and
haystack (haystacks shorter than 64 bytes go to Rabin-Karp, longer ones to
`Finder::new(needle).find(haystack)`): returns normally with exactly the leftmost occurrence. -/
theorem oneshot_all (cfg : Api.Cfg) (needle hay : Slice) (hn : needle.Valid) (hh : hay.Valid)
    (c : Ctr) :
    ∃ c', Memmem.find cfg hay needle c = .ok (Spec.leftmost hay.toArray needle.toArray) c' :=
  Memmem.C03.oneshot_all cfg needle hay hn hh c

/-- `memmem::find(haystack, b"")` is `Some(0)` for every valid haystack, the empty one
included. -/
theorem oneshot_empty (cfg : Api.Cfg) (needle hay : Slice) (hn : needle.Valid) (hh : hay.Valid)
    (h0 : needle.len = 0) (c : Ctr) :
    ∃ c', Memmem.find cfg hay needle c = .ok (some 0) c' := by
  have := oneshot_all cfg needle hay hn hh c
  rwa [Spec.leftmost_empty (by rw [Slice.toArray_size hn]; exact h0)] at this

/-! ### Two-Way, the searcher behind every other needle -/

/-- **`twoway::Finder::new(needle)` then `find_with_prefilter(pre, haystack, needle)`** (what the
meta searcher runs for needles of two or more bytes that the vector searcher does not own), for
every valid needle and haystack, every optional prefilter `pre` whose strategy is `strat`
(`PreOK`) in EVERY prefilter state, provided - when there is a prefilter - that the strategy is
sound for this needle on this haystack (`TwoWay.PreSound`: run on any tail of the haystack it
returns normally and never reports a candidate beyond the first occurrence in that tail; every
strategy the meta searcher builds is, see `Props/C11`): construction and search return normally
with exactly the leftmost occurrence; the prefilter keeps its strategy (and stays absent if it
was absent); without a prefilter the whole call takes at most
`3 * haystack.len + 8 * needle.len + 3` steps. -/
theorem twoway_find_correct (needle haystack : Slice) (pre : Option Pre) (c : Ctr)
    (strat : Slice → M (Option Nat)) (hnv : needle.Valid) (hhv : haystack.Valid)
    (hpre : TwoWay.PreOK strat pre)
    (hsound : pre ≠ none → TwoWay.PreSound needle haystack strat) :
    ∃ pre' c', (TwoWay.Finder.new needle >>= fun tw =>
          TwoWay.Finder.findWithPrefilter tw pre haystack needle) c =
        .ok (Spec.leftmost haystack.toArray needle.toArray, pre') c' ∧
      TwoWay.PreOK strat pre' ∧ (pre = none → pre' = none) ∧
      (pre = none → c'.steps ≤ c.steps + 3 * haystack.len + 8 * needle.len + 3) :=
  TwoWay.find_correct needle haystack pre c strat hnv hhv hpre hsound

/-! ### the hypotheses are satisfiable -/

/-- two valid non-trivial slices (sub-slices of larger regions at odd addresses): the needle
"abc" occurs twice in the haystack "xabcxabc" -/
example : (⟨⟨1, 1048577, #[0, 97, 98, 99, 0]⟩, 1, 3⟩ : Slice).Valid ∧
    (⟨⟨0, 4099, #[120, 120, 97, 98, 99, 120, 97, 98, 99, 120]⟩, 1, 8⟩ : Slice).Valid := by
  simp [Slice.Valid]

/-- a needle of 40 bytes (longer than the vector searcher's 32: a Two-Way branch), the empty
needle, the empty haystack and a 100-byte haystack are all valid slices -/
example : (Slice.ofMem ⟨1, 64, Array.replicate 40 97⟩).Valid ∧
    (Slice.ofMem ⟨1, 64, #[]⟩).Valid ∧ (Slice.ofMem ⟨1, 64, #[]⟩).len = 0 ∧
    (Slice.ofMem ⟨0, 4096, #[]⟩).Valid ∧ (Slice.ofMem ⟨0, 4096, Array.replicate 100 97⟩).Valid := by
  simp [Slice.Valid, Slice.ofMem]

/-- the side condition of `find` is satisfiable: x86_64 with SSE2 has a vector finder and "abc"
is in `do_packed_search`'s range -/
example : (vecKind { arch := .x86_64, ctSse2 := true, ctAvx2 := false, ctNeon := false,
                     std := true, cpuAvx2 := true }).isSome = true ∧
    doPackedSearch ⟨⟨1, 1048577, #[0, 97, 98, 99, 0]⟩, 1, 3⟩ = true := by
  refine ⟨by decide, by decide⟩

/-- the hypotheses of `twoway_find_correct` are satisfiable without a prefilter ... -/
example : TwoWay.PreOK (fun _ => pure none) none := fun p hp => by cases hp

/-- ... and with one: "every position is a candidate" is a sound strategy for every needle and
haystack -/
example (needle haystack : Slice) : TwoWay.PreSound needle haystack (fun _ => pure (some 0)) :=
  fun a _ c => ⟨some 0, c, rfl, nofun, fun cnd h q _ => by cases h; exact Nat.zero_le _⟩

end Memchr.Props.C03

#print axioms Memchr.Props.C03.spec_some_iff
#print axioms Memchr.Props.C03.spec_none_iff
#print axioms Memchr.Props.C03.spec_empty
#print axioms Memchr.Props.C03.find_all
#print axioms Memchr.Props.C03.find
#print axioms Memchr.Props.C03.find_empty
#print axioms Memchr.Props.C03.builder_find_all
#print axioms Memchr.Props.C03.finder_find_all
#print axioms Memchr.Props.C03.oneshot_all
#print axioms Memchr.Props.C03.oneshot_empty
#print axioms Memchr.Props.C03.twoway_find_correct
