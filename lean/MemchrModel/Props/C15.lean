/-
C15  Concurrent use gives the same answers as sequential use.

Only statements, short proofs from the master lemmas (`Proofs/Concurrency.lean`), a concrete
racing schedule and `#print axioms`.

WHAT THE MODEL IS (`Model/Concurrency.lean`). The only shared mutable state the byte-search
routines have is the cell `static FN: AtomicPtr<()>` of `unsafe_ifunc!`
(`src/arch/x86_64/memchr.rs`), one per dispatched routine (`memchr_raw`, `memrchr_raw`,
`memchr2_raw`, `memrchr2_raw`, `memchr3_raw`, `memrchr3_raw`, `count_raw`; `Ifunc` is one such
instantiation). A `State` records EVERY value ever stored into `FN` (`stored`, initially
`[detect]`), per thread the value its `FN.load(Relaxed)` returned and has not yet called
(`pending`), per thread the calls it still has to make (`queue`), and the outcomes of the
completed calls (`results`). One `step` of thread `tid` is: load `FN`; or, having loaded
`detect`, run `detect` (choose `x86Detect cfg`, `FN.store(Relaxed)`, call the choice); or,
having loaded `find_<b>`, call it. A `Schedule` is a list of `(thread, idx)`: which thread moves
next, and — if the move is a load — WHICH of the values ever stored the load returns
(`idx` modulo the number of stored values).

The cell exists only on x86_64 (`x86Detect cfg` is `Api.select cfg` there). On aarch64, wasm32
and every other architecture the implementation is fixed at compile time and the routines have
no shared mutable state at all, so there is nothing to schedule.

WHAT THE THEOREMS COVER. They quantify over every `queue` (any number of threads, any calls
per thread, any arguments, so first and subsequent calls) and every `Schedule` (every
interleaving of the threads' loads / stores / calls, and for every relaxed load every result
drawn from the set of values EVER stored, however stale). That is a superset of the behaviours
the C++11 / Rust memory model allows for relaxed atomics on a single location, so the
conclusions hold for every real execution that the assumptions below admit.

WHAT THE MODEL CANNOT EXPRESS (trusted, not proved):
* tearing: a load returns one of the stored pointers, never a mixture of two (guaranteed by
  `AtomicPtr`; on the hardware, an aligned pointer-sized access);
* the hardware memory model and the compiler: that `Ordering::Relaxed` loads/stores of one
  location behave as "some previously stored value" (out-of-thin-air values are excluded);
* data races on non-atomic memory: the haystack is assumed not to be written during a search
  (Rust's `&[u8]` guarantees it; for the raw-pointer forms it is the caller's obligation), and
  each call's counters / stack are private (every call starts from the empty counter `{}`);
* that transmuting the loaded pointer to the real function type and calling it is what
  `I.run b` models; that `detect`'s choice `x86Detect cfg` is the same in all threads (CPU
  features do not change while the process runs);
* progress / fairness: the theorems are about the calls that complete (`race` shows calls do
  complete); a schedule that never lets a thread move is not excluded.
* `Finder` / `FinderRev` / cloned iterators shared or sent across threads: the searchers hold
  no interior mutability (per-search state such as `PrefilterState` lives on the caller's
  stack), and in this model they are immutable values, so concurrent use is the same function
  applied to the same arguments; that `unsafe impl Send/Sync` for the raw-pointer iterator is
  sound is a statement about Rust's type system, outside the model.
  What IS proved about them (`shared_finder`, `shared_finder_rev`, `find_keeps_finder`): a
  `find` / `rfind` step returns the very same finder value, and in EVERY global order of
  `find` calls made by any number of threads on one shared finder, each thread observes exactly
  what it observes running its own calls alone - the leftmost / rightmost occurrence in each
  of its haystacks.  A call is one atomic step of that order; that is justified by the absence
  of interior mutability (checked on every run by the extractor's structural fact "no
  Cell/RefCell/Atomic/static mut in the searcher types", and observed by the fresh-process
  barrier runs that race real threads on a shared `Finder`), not by the theorem.
-/
import MemchrModel.Proofs.Concurrency
import MemchrModel.Proofs.SharedFinder

namespace Memchr.Props.C15

open Memchr.Api Memchr.Concurrency

/-- General form, for any instantiation `I` of `unsafe_ifunc!` and any predicate `P` on
(arguments, outcome): if the implementation `detect` chooses (`x86Detect cfg`) satisfies `P` on
every argument tuple when run in isolation (from the empty counter `{}`), then in every state
reachable from the initial one (`FN = detect`, nothing loaded) by ANY schedule — any number of
threads, any per-thread call sequences `queue`, any interleaving, any choice of load results
among the values ever stored — every completed call satisfies `P`. In particular no call ever
ran an implementation other than the chosen one, and no call jumped through a garbage
pointer. -/
theorem any_schedule {Args R : Type} (I : Ifunc Args R) (cfg : Cfg) (P : Args → Res R → Prop)
    (hP : ∀ a, P a (I.run (x86Detect cfg) a {})) (queue : Nat → List Args) (sched : Schedule) :
    ∀ r ∈ (runSchedule I cfg (init queue) sched).results, P r.2.1 r.2.2 :=
  Concurrency.any_schedule I cfg P hP queue sched

/-- "every call returns exactly what it would return in isolation": the outcome recorded for
every completed call `(thread, args, outcome)`, under any schedule, is EQUAL (value, or fault,
and counters) to the outcome of running the chosen implementation alone on the same
arguments. -/
theorem same_as_isolated {Args R : Type} (I : Ifunc Args R) (cfg : Cfg)
    (queue : Nat → List Args) (sched : Schedule) :
    ∀ r ∈ (runSchedule I cfg (init queue) sched).results,
      r.2.2 = I.run (x86Detect cfg) r.2.1 {} :=
  Concurrency.any_schedule I cfg (fun a res => res = I.run (x86Detect cfg) a {}) (fun _ => rfl)
    queue sched

/-- The sequential reference: one thread making one call from the initial state (load `detect`,
run it) gets exactly the isolated outcome of the chosen implementation — the oracle that
`same_as_isolated` compares every concurrent call with. -/
theorem sequential_first_call {Args R : Type} (I : Ifunc Args R) (cfg : Cfg) (a : Args) :
    (runSchedule I cfg (init (fun t => if t = 0 then [a] else [])) [(0, 0), (0, 0)]).results
      = [(0, a, I.run (x86Detect cfg) a {})] :=
  rfl

/-- The six dispatched search routines (`rev = false`: `memchr_raw`, `memchr2_raw`,
`memchr3_raw`; `rev = true`: `memrchr_raw`, `memrchr2_raw`, `memrchr3_raw`; the needle set is
part of each call's arguments): under any schedule, every completed call whose window
`[start, end)` lies inside its memory region returned normally with the specified value — the
address of the first / last needle byte of the window, `none` iff there is none
(`Api.specFind`, spelled out in `C01.raw_every_backend` / `C02.raw_every_backend`). -/
theorem find_any_schedule (rev : Bool) (cfg : Cfg) (queue : Nat → List FindArgs)
    (sched : Schedule) :
    ∀ r ∈ (runSchedule (findIfunc rev) cfg (init queue) sched).results,
      r.2.1.m.base ≤ r.2.1.start → r.2.1.end_ ≤ r.2.1.m.base + r.2.1.m.bytes.size →
      ∃ c', r.2.2 = .ok (specFind r.2.1.ns rev r.2.1.m r.2.1.start r.2.1.end_) c' :=
  any_schedule (findIfunc rev) cfg
    (fun a res => a.m.base ≤ a.start → a.end_ ≤ a.m.base + a.m.bytes.size →
      ∃ c', res = .ok (specFind a.ns rev a.m a.start a.end_) c')
    (fun a hs he => rawFind_correct (x86Detect cfg) a.ns rev a.m a.start a.end_ {} hs he)
    queue sched

/-- The seventh dispatched routine, `count_raw`: under any schedule, every completed call on a
window inside its region returned the number of bytes of the window equal to the needle. -/
theorem count_any_schedule (cfg : Cfg) (queue : Nat → List CountArgs) (sched : Schedule) :
    ∀ r ∈ (runSchedule countIfunc cfg (init queue) sched).results,
      r.2.1.m.base ≤ r.2.1.start → r.2.1.end_ ≤ r.2.1.m.base + r.2.1.m.bytes.size →
      ∃ c', r.2.2 = .ok (specCount r.2.1.n1 r.2.1.m r.2.1.start r.2.1.end_) c' :=
  any_schedule countIfunc cfg
    (fun a res => a.m.base ≤ a.start → a.end_ ≤ a.m.base + a.m.bytes.size →
      ∃ c', res = .ok (specCount a.n1 a.m a.start a.end_) c')
    (fun a hs he => rawCount_correct (x86Detect cfg) a.n1 a.m a.start a.end_ {} hs he)
    queue sched

/-- The model is not vacuous — a concrete two-thread race on the very first calls (the same
schedule as the `example` at the end of `Proofs/Concurrency.lean`, which is anonymous and cannot
be referenced, so it is re-checked here by evaluation). Haystack `"baba"` at address 1001,
needle `'a'`, each thread calls `memchr_raw` twice, x86_64 with AVX2 detected at run time.
Schedule: both threads load `detect` before either stores; both run `detect` (two stores);
thread 1's second call loads the initial, stale `detect` AGAIN (index 0) and runs it (third
store); thread 0's second call loads a stored implementation (index 2) and calls it. All four
calls complete, in the order thread 0, 1, 1, 0 (most recent first), all with the same
arguments; `FN` was stored to three times, always with `find_avx2`. By `find_any_schedule` and
`race_value` each of the four calls returned `some 1002`. -/
theorem race :
    let m : Mem := ⟨0, 1001, #[0x62, 0x61, 0x62, 0x61]⟩
    let a : FindArgs := ⟨⟨0x61, []⟩, m, 1001, 1005⟩
    let cfg : Cfg := { arch := .x86_64, ctSse2 := true, ctAvx2 := false, ctNeon := false,
                       std := true, cpuAvx2 := true }
    let st := runSchedule (findIfunc false) cfg (init (fun t => if t < 2 then [a, a] else []))
      [(0, 0), (1, 0), (0, 0), (1, 0), (1, 0), (1, 0), (0, 2), (0, 0)]
    st.results.map (fun r => r.1) = [0, 1, 1, 0]
    ∧ st.results.map (fun r => (r.2.1.start, r.2.1.end_)) =
        [(1001, 1005), (1001, 1005), (1001, 1005), (1001, 1005)]
    ∧ st.stored = [.detect, .impl .avx2, .impl .avx2, .impl .avx2] := by
  decide

/-- the specified value for the calls of `race`: the first `'a'` of `"baba"` at 1001 is at
address 1002, and the window `[1001, 1005)` satisfies the hypotheses of `find_any_schedule` -/
theorem race_value :
    specFind ⟨0x61, []⟩ false ⟨0, 1001, #[0x62, 0x61, 0x62, 0x61]⟩ 1001 1005 = some 1002 ∧
    (1001 : Nat) ≤ 1001 ∧ 1005 ≤ 1001 + (#[0x62, 0x61, 0x62, 0x61] : Array UInt8).size := by
  decide

/-! ### one substring finder shared by several threads -/

open Memchr.Memmem Memchr.SharedFinder in
/-- **A shared `Finder`.** `s : Sched` is a global order of `find` calls, each tagged with the
thread that made it (`(thread, haystack)`); `opsOf s` is what the one shared finder sees,
`alone t s` are thread `t`'s calls in program order, `project t s outs` the outputs at `t`'s
calls.  For every configuration, every `FinderBuilder` finder (any prefilter setting, any
ranker), every valid needle and EVERY such order on valid haystacks: the run returns normally,
every call observes the leftmost occurrence of the needle in ITS haystack, and every thread
observes exactly what a finder for the same needle yields when that thread's calls run alone
(same builder, same initial heap and counter).  The number of threads, the calls per thread
and the interleaving are all universally quantified. -/
theorem shared_finder (cfg : Api.Cfg) (b : FinderBuilder) (rank : UInt8 → UInt8)
    (needle : Slice) (hn : needle.Valid) (s : Sched) (hs : ∀ p ∈ s, p.2.Valid)
    (h : Heap) (c : Ctr) :
    ∃ outs f' h' c',
      (b.buildForwardWithRanker cfg rank needle >>= fun f => Finder.run cfg (opsOf s) f h) c =
        .ok (outs, f', h') c' ∧
      outs = s.map (fun p => Memmem.Out.idx (Spec.leftmost p.2.toArray needle.toArray)) ∧
      ∀ t, ∃ f1 h1 c1,
        (b.buildForwardWithRanker cfg rank needle >>= fun f =>
          Finder.run cfg (opsOf (alone t s)) f h) c = .ok (project t s outs, f1, h1) c1 :=
  shared_of_run_all
    (m := fun ops => b.buildForwardWithRanker cfg rank needle >>= fun f => Finder.run cfg ops f h)
    (fun s' hs' c =>
      let ⟨f', h', c', hrun, _⟩ :=
        Memmem.C16.finder_run_all cfg b rank needle hn (opsOf s') (opsOf_ok s' hs') h c
      ⟨f', h', c', refFinder_opsOf _ s' ▸ hrun⟩)
    s hs c

open Memchr.Memmem Memchr.SharedFinder in
/-- **A shared `FinderRev`**: the same with `rfind` and the rightmost occurrence. -/
theorem shared_finder_rev (cfg : Api.Cfg) (needle : Slice) (hn : needle.Valid) (s : Sched)
    (hs : ∀ p ∈ s, p.2.Valid) (h : Heap) (c : Ctr) :
    ∃ outs f' h' c',
      (FinderRev.new needle >>= fun f => FinderRev.run cfg (opsOf s) f h) c =
        .ok (outs, f', h') c' ∧
      outs = s.map (fun p => Memmem.Out.idx (Spec.rightmost p.2.toArray needle.toArray)) ∧
      ∀ t, ∃ f1 h1 c1,
        (FinderRev.new needle >>= fun f => FinderRev.run cfg (opsOf (alone t s)) f h) c =
          .ok (project t s outs, f1, h1) c1 :=
  SharedFinder.shared_finder_rev cfg needle hn s hs h c

open Memchr.Memmem in
/-- `find(&self)` cannot change what another thread sees: whenever the model's `find` step
returns, the finder and the heap it returns are the ones it was given. -/
theorem find_keeps_finder (cfg : Api.Cfg) (hay : Slice) (f : Finder) (h : Heap) (c : Ctr)
    (o : Option Memmem.Out) (f' : Finder) (h' : Heap) (c' : Ctr)
    (hstep : f.step cfg (.find hay) h c = .ok (o, f', h') c') : f' = f ∧ h' = h :=
  SharedFinder.find_keeps_finder cfg hay f h c o f' h' c' hstep

open Memchr.Memmem Memchr.SharedFinder in
/-- the hypotheses of `shared_finder` are satisfiable, and the bookkeeping is not trivial: three
threads, five calls on two different valid haystacks, interleaved; thread 1 made the calls at
positions 1 and 3, thread 7 none -/
example :
    let n : Slice := ⟨⟨1, 1048577, #[0, 97, 98, 0]⟩, 1, 2⟩
    let a : Slice := ⟨⟨0, 4099, #[120, 97, 98, 97, 98, 120]⟩, 1, 4⟩
    let b : Slice := ⟨⟨2, 8192, #[97, 98]⟩, 0, 2⟩
    let s : Sched := [(0, a), (1, b), (2, a), (1, a), (0, b)]
    n.Valid ∧ (∀ p ∈ s, p.2.Valid) ∧
    (alone 1 s).map (·.1) = [1, 1] ∧ (alone 7 s).length = 0 ∧
    project 1 s ([.idx (some 0), .idx (some 10), .idx none, .idx (some 30), .idx (some 40)] : List Memmem.Out) =
      [.idx (some 10), .idx (some 30)] := by
  refine ⟨by simp [Slice.Valid], ?_, by decide, by decide, by decide⟩
  intro p hp
  simp at hp
  rcases hp with rfl | rfl | rfl | rfl | rfl <;> simp [Slice.Valid]

end Memchr.Props.C15

#print axioms Memchr.Props.C15.any_schedule
#print axioms Memchr.Props.C15.same_as_isolated
#print axioms Memchr.Props.C15.sequential_first_call
#print axioms Memchr.Props.C15.find_any_schedule
#print axioms Memchr.Props.C15.count_any_schedule
#print axioms Memchr.Props.C15.race
#print axioms Memchr.Props.C15.race_value
#print axioms Memchr.Props.C15.shared_finder
#print axioms Memchr.Props.C15.shared_finder_rev
#print axioms Memchr.Props.C15.find_keeps_finder
