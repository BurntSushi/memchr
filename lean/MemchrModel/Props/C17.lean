/-
C17  Searching performs no heap allocation.

Constructing a `Finder` / `FinderRev` from a borrowed needle and running `find`, `rfind`,
`find_iter`, `rfind_iter`, or any memchr-family function or iterator allocates no heap memory,
for every input; only the explicitly owning conversions (`into_owned`) and the Shift-Or searcher
allocate.

WHAT THESE THEOREMS ARE ABOUT, AND WHAT THEY CANNOT SHOW.  In the model (`Model/Memmem.lean`) the
global allocator is a counter `Heap.allocs`, and the only model functions that receive the heap
are the two places of `src/memmem/mod.rs` / `src/cow.rs` that can reach the allocator:
`CowBytes::into_owned` (`Box::<[u8]>::from`) and the derived `Clone for CowBytes`
(`Box<[u8]>::clone`).  Construction (`Searcher::new`, `FinderBuilder::build_*`) and every search
routine (`Searcher::find`, Two-Way, Rabin-Karp, the packed-pair finders, the prefilters, the
`memchr` family) are modelled as functions that do not take the heap at all, so in the model
they cannot allocate BY CONSTRUCTION.  The theorems below are therefore about the OWNERSHIP
BOOKKEEPING: which handle conversions copy the needle, how often, and that nothing else touches
the counter.  What the model cannot exhibit is an allocation hidden INSIDE a search or
construction routine (a `Vec` in a searcher, a boxed closure, a `format!` on an error path):
that the Rust routines really are allocation-free is what the counting-allocator correspondence
run checks on the real code (allocator calls observed = `refAllocs` of the model), not these
theorems.  The memchr-family functions and iterators (`Model/MemchrApi.lean`) and Shift-Or
(`Model/ShiftOr.lean`) have no heap parameter either; Shift-Or's documented allocation (its mask
table) is not modelled.

Contents

  the exact allocation count of ANY operation sequence          `finder_run_allocs`,
    (the allocation clauses of the `run_ok` theorems)             `finder_rev_run_allocs`,
                                                                  `find_iter_run_allocs`,
                                                                  `rfind_iter_run_allocs`
  what the count `refAllocs` is, in plain words                  `ref_allocs_eqs`
  without `into_owned`, from a borrowed needle: zero              `ref_allocs_borrowed`,
                                                                  `finder_no_alloc`,
                                                                  `find_iter_no_alloc`,
                                                                  `rfind_iter_no_alloc`
  the empty needle never allocates (a zero-length `Box<[u8]>`)   `ref_allocs_empty`

Only statements, proofs of a line or two from the master lemmas (`Proofs/OpSim.lean`,
`Proofs/MemmemIter.lean`, `Proofs/Memmem.lean`), non-vacuity examples and `#print axioms`.
-/
import MemchrModel.Proofs.Memmem

namespace Memchr.Props.C17

open Memchr.Memmem

/-! ### the count -/

/-- **What `refAllocs len own ops` is** (`len` = needle length, `own` = whether the handle's
needle is currently borrowed or owned, `ops` = the operations classified as `as_ref` /
`into_owned` / `clone` / anything else): the sum over the operations of
* `into_owned()` of a BORROWED needle: one allocation (none for the empty needle), after which
  the needle is owned;
* `clone()` of an OWNED needle: one allocation (none for the empty needle), still owned;
* `into_owned()` of an owned needle, `clone()` of a borrowed one, `as_ref()` (after which the
  needle is borrowed), and every other operation (`find`, `rfind`, `next`, `size_hint`,
  `needle`): nothing. -/
theorem ref_allocs_eqs (len : Nat) (o : Ownership) (op : OwnOp) (ops : List OwnOp) :
    refAllocs len o [] = 0 ∧
    refAllocs len o (op :: ops) = op.cost len o + refAllocs len (op.next o) ops ∧
    OwnOp.cost len .borrowed .intoOwned = (if len = 0 then 0 else 1) ∧
    OwnOp.cost len .owned .clone = (if len = 0 then 0 else 1) ∧
    OwnOp.cost len .owned .intoOwned = 0 ∧ OwnOp.cost len .borrowed .clone = 0 ∧
    OwnOp.cost len o .asRef = 0 ∧ OwnOp.cost len o .other = 0 ∧
    OwnOp.next o .asRef = .borrowed ∧ OwnOp.next o .intoOwned = .owned ∧
    OwnOp.next o .clone = o ∧ OwnOp.next o .other = o :=
  ⟨rfl, rfl, rfl, rfl, rfl, rfl, OwnOp.cost_asRef len o, OwnOp.cost_other len o,
   rfl, rfl, rfl, rfl⟩

/-- **Without `into_owned`, nothing that starts from a borrowed needle allocates**: for every
needle length and every operation list not containing `into_owned` the count is 0 (a `clone` of
a borrowed needle copies the reference; `as_ref` keeps it borrowed). -/
theorem ref_allocs_borrowed (len : Nat) (ops : List OwnOp) (h : OwnOp.intoOwned ∉ ops) :
    refAllocs len .borrowed ops = 0 :=
  Memmem.refAllocs_borrowed len ops h

/-- **The empty needle never allocates**, whatever the ownership and the operations: boxing a
zero-length slice does not call the allocator. -/
theorem ref_allocs_empty (o : Ownership) (ops : List OwnOp) : refAllocs 0 o ops = 0 :=
  Memmem.refAllocs_empty o ops

/-! ### exact counts for any operation sequence -/

/-- **`Finder`, exact count.** For every configuration, `FinderBuilder` finder (any prefilter
setting and ranker), valid needle, and EVERY list of operations (`find` on valid haystacks,
`needle`, `as_ref`, `clone`, `into_owned`): construction and the whole run return normally and
the allocator is called exactly `refAllocs needle.len .borrowed ..` times - construction itself
and every `find` contribute nothing. (The first conjunct is C16.) -/
theorem finder_run_allocs (cfg : Api.Cfg) (b : FinderBuilder) (rank : UInt8 → UInt8)
    (needle : Slice) (hn : needle.Valid) (ops : List FinderOp) (hops : ∀ op ∈ ops, op.Ok)
    (h : Heap) (c : Ctr) :
    ∃ f' h' c', (b.buildForwardWithRanker cfg rank needle >>= fun f => Finder.run cfg ops f h) c =
        .ok (refFinder needle.toArray ops, f', h') c' ∧
      h'.allocs = h.allocs + refAllocs needle.len .borrowed (ops.map FinderOp.own) :=
  Memmem.C16.finder_run_all cfg b rank needle hn ops hops h c

/-- **`FinderRev`, exact count**: `FinderRev::new(needle)` and every list of operations
(`find` = `rfind`). -/
theorem finder_rev_run_allocs (cfg : Api.Cfg) (needle : Slice) (hn : needle.Valid)
    (ops : List FinderOp) (hops : ∀ op ∈ ops, op.Ok) (h : Heap) (c : Ctr) :
    ∃ f' h' c', (FinderRev.new needle >>= fun f => FinderRev.run cfg ops f h) c =
        .ok (Bridge3.refFinderRev needle.toArray ops, f', h') c' ∧
      h'.allocs = h.allocs + refAllocs needle.len .borrowed (ops.map FinderOp.own) :=
  Bridge3.finderRev_run_all cfg needle hn ops hops h c

/-- **`find_iter`, exact count**: build a finder, `find_iter(haystack)`, then EVERY list of
`next` / `size_hint` / `clone` / `into_owned`: the allocator is called exactly `refAllocs` times
(`next` and `size_hint` contribute nothing). -/
theorem find_iter_run_allocs (cfg : Api.Cfg) (b : FinderBuilder) (rank : UInt8 → UInt8)
    (needle hay : Slice) (hn : needle.Valid) (hh : hay.Valid) (ops : List IterOp) (h : Heap)
    (c : Ctr) :
    ∃ it' h' c', (b.buildForwardWithRanker cfg rank needle >>= fun f =>
        FindIter.run cfg ops (f.findIter hay) h) c =
        .ok (refFwd hay.toArray needle.toArray ops 0, it', h') c' ∧
      h'.allocs = h.allocs + refAllocs needle.len .borrowed (ops.map IterOp.own) :=
  Bridge3.findIter_run_all cfg b rank needle hay hn hh ops h c

/-- **`rfind_iter`, exact count**: `FinderRev::new(needle).rfind_iter(haystack)`, then every
list of `next` / `size_hint` / `clone` / `into_owned`. -/
theorem rfind_iter_run_allocs (cfg : Api.Cfg) (needle hay : Slice) (hn : needle.Valid)
    (hh : hay.Valid) (ops : List IterOp) (h : Heap) (c : Ctr) :
    ∃ it' h' c', (FinderRev.new needle >>= fun f =>
        FindRevIter.run cfg ops (f.rfindIter hay) h) c =
        .ok (refRev hay.toArray needle.toArray ops (some hay.len), it', h') c' ∧
      h'.allocs = h.allocs + refAllocs needle.len .borrowed (ops.map IterOp.own) :=
  Bridge3.rfindIter_run_all cfg needle hay hn hh ops h c

/-! ### no allocation without `into_owned` -/

/-- **`Finder`: no allocation.** ANY finder for the needle bytes of `n0` whose needle is
borrowed (in particular every freshly built one) and ANY operation list without `into_owned` -
any number of `find` (valid haystacks), `as_ref`, `clone`, `needle`, in any order - leaves the
allocation counter unchanged. -/
theorem finder_no_alloc (cfg : Api.Cfg) (n0 : Slice) (hn0 : n0.Valid) (ops : List FinderOp)
    (hops : ∀ op ∈ ops, op.Ok) (hno : FinderOp.intoOwned ∉ ops) (f : Finder) (hg : f.GoodFor n0)
    (hb : f.needle.own = .borrowed) (h : Heap) (c : Ctr) :
    ∃ outs f' h' c', Finder.run cfg ops f h c = .ok (outs, f', h') c' ∧ h'.allocs = h.allocs := by
  obtain ⟨f', h', c', hr, _, ha⟩ := Finder.run_ok cfg n0 hn0 ops hops f hg h c
  exact ⟨_, f', h', c', hr, by rw [ha, hb, refAllocs_finder_borrowed _ _ hno]; rfl⟩

/-- **`find_iter`: no allocation**: `k` calls of `next()` on `finder.find_iter(haystack)`,
construction of the finder included, for every `k` (the second conjunct of `C08.find_iter_all`;
for operation lists with `size_hint` and `clone` use `find_iter_run_allocs` and
`iter_ops_borrowed`). -/
theorem find_iter_no_alloc (cfg : Api.Cfg) (b : FinderBuilder) (rank : UInt8 → UInt8)
    (needle hay : Slice) (hn : needle.Valid) (hh : hay.Valid) (k : Nat) (h : Heap) (c : Ctr) :
    ∃ it' h' c', (b.buildForwardWithRanker cfg rank needle >>= fun f =>
        FindIter.run cfg (List.replicate k .next) (f.findIter hay) h) c =
        .ok ((List.range k).map
          (fun i => Out.idx ((Spec.greedyFwd hay.toArray needle.toArray)[i]?)), it', h') c' ∧
      h'.allocs = h.allocs :=
  Memmem.C08.find_iter_all cfg b rank needle hay hn hh k h c

/-- **`rfind_iter`: no allocation**: `k` calls of `next()` on
`FinderRev::new(needle).rfind_iter(haystack)`, for every `k`. -/
theorem rfind_iter_no_alloc (cfg : Api.Cfg) (needle hay : Slice) (hn : needle.Valid)
    (hh : hay.Valid) (k : Nat) (h : Heap) (c : Ctr) :
    ∃ it' h' c', (FinderRev.new needle >>= fun f =>
        FindRevIter.run cfg (List.replicate k .next) (f.rfindIter hay) h) c =
        .ok ((List.range k).map
          (fun i => Out.idx ((Spec.greedyRev hay.toArray needle.toArray)[i]?)), it', h') c' ∧
      h'.allocs = h.allocs :=
  Memmem.C08.rfind_iter_all cfg needle hay hn hh k h c

/-- The count in `find_iter_run_allocs` / `rfind_iter_run_allocs` is 0 for every iterator
operation list without `into_owned`, and the one in `finder_run_allocs` /
`finder_rev_run_allocs` is 0 for every finder operation list without `into_owned`. -/
theorem iter_ops_borrowed (len : Nat) :
    (∀ ops : List IterOp, IterOp.intoOwned ∉ ops →
      refAllocs len .borrowed (ops.map IterOp.own) = 0) ∧
    (∀ ops : List FinderOp, FinderOp.intoOwned ∉ ops →
      refAllocs len .borrowed (ops.map FinderOp.own) = 0) :=
  ⟨Memmem.refAllocs_iter_borrowed len, Memmem.refAllocs_finder_borrowed len⟩

/-! ### the hypotheses are satisfiable; the count is not always zero -/

/-- a valid needle and haystack, an operation list without `into_owned` all of whose `find`
haystacks are valid -/
example : (⟨⟨1, 1048577, #[0, 97, 98, 0]⟩, 1, 2⟩ : Slice).Valid ∧
    (⟨⟨0, 4099, #[120, 97, 98, 97, 98, 120]⟩, 1, 4⟩ : Slice).Valid ∧
    FinderOp.Ok (.find ⟨⟨0, 4099, #[120, 97, 98, 97, 98, 120]⟩, 1, 4⟩) ∧
    FinderOp.intoOwned ∉ [FinderOp.find ⟨⟨0, 4099, #[120, 97, 98, 97, 98, 120]⟩, 1, 4⟩,
      .asRef, .clone, .needle] := by
  refine ⟨by simp [Slice.Valid], by simp [Slice.Valid], by simp [FinderOp.Ok, Slice.Valid],
    by simp⟩

/-- a good finder with a borrowed needle exists (hypotheses of `finder_no_alloc`) -/
example : Finder.GoodFor (Slice.ofMem ⟨1, 64, #[]⟩)
      { needle := CowBytes.new (Slice.ofMem ⟨1, 64, #[]⟩),
        searcher := { kind := .empty, rabinkarp := RabinKarp.Finder.spec [] } } ∧
    (CowBytes.new (Slice.ofMem ⟨1, 64, #[]⟩)).own = .borrowed :=
  ⟨⟨⟨by simp [Slice.Valid, Slice.ofMem, CowBytes.new], rfl⟩, rfl, rfl⟩, rfl⟩

/-- the exact count on an instance: for a 3-byte needle, `into_owned` of the borrowed needle,
a search, `clone` (of the now owned needle), `as_ref`, `clone` (of the borrowed view) allocate
exactly twice; the same operations on the empty needle allocate nothing -/
example : refAllocs 3 .borrowed [.intoOwned, .other, .clone, .asRef, .clone] = 2 ∧
    refAllocs 0 .borrowed [.intoOwned, .other, .clone, .asRef, .clone] = 0 := by
  decide

end Memchr.Props.C17

#print axioms Memchr.Props.C17.ref_allocs_eqs
#print axioms Memchr.Props.C17.ref_allocs_borrowed
#print axioms Memchr.Props.C17.ref_allocs_empty
#print axioms Memchr.Props.C17.finder_run_allocs
#print axioms Memchr.Props.C17.finder_rev_run_allocs
#print axioms Memchr.Props.C17.find_iter_run_allocs
#print axioms Memchr.Props.C17.rfind_iter_run_allocs
#print axioms Memchr.Props.C17.finder_no_alloc
#print axioms Memchr.Props.C17.find_iter_no_alloc
#print axioms Memchr.Props.C17.rfind_iter_no_alloc
#print axioms Memchr.Props.C17.iter_ops_borrowed
