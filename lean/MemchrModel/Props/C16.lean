/-
C16  A finder is a pure function of its needle: reuse, clone, borrow, own.

The result of searching a haystack with a `Finder` or `FinderRev` depends only on the needle and
that haystack, never on which haystacks were searched before.  `as_ref()`, `clone()` and
`into_owned()` of a finder or of a partially consumed `find_iter` / `rfind_iter` behave
identically to the original from that point on, even after the original needle buffer is gone,
and `needle()` returns the construction needle.

How this is stated.  A finder (iterator) is driven by the operation machines of
`Model/Memmem.lean`: `Finder.run cfg ops f heap` applies a LIST of operations to the finder -
`find(haystack)`, `needle()`, and the conversions `as_ref()` / `clone()` / `into_owned()`, each
of which REPLACES the finder by its result (so everything after it runs on the converted value;
`into_owned` moves the needle bytes into a fresh heap region, after which the original buffer is
no longer referenced) - and collects the observations.  The theorems say that the list of
observations equals that of a reference machine (`refFinder`, `refFinderRev`, `refFwd`, `refRev`)
which is a function of the NEEDLE BYTES and the operations alone: it has no finder, no prefilter
state, no heap and no history.

  what the reference machines are, in plain words                 `ref_finder_eqs`,
                                                                   `ref_finder_rev_eqs`
  `Finder`: any operation sequence observes `refFinder`           `finder_run_all`
  `FinderRev`: any operation sequence observes `refFinderRev`     `finder_rev_run_all`
  two finders for the same needle bytes - however built,          `finder`, `finder_rev`
    borrowed or owned, whatever they searched before - under
    sequences that agree up to conversions observe the same
  partially consumed `find_iter` / `rfind_iter`: the same, from   `find_iter`, `rfind_iter`
    any common position

The only hypotheses are that the needle and the haystacks are valid slices.  Only statements,
proofs of a few lines from the master lemmas (`Proofs/Memmem.lean`), non-vacuity examples and
`#print axioms`.
-/
import MemchrModel.Proofs.Memmem

namespace Memchr.Props.C16

open Memchr.Memmem

/-! ### the reference machines -/

/-- **What `refFinder x ops` is**, equation by equation (`x` = the needle bytes): a
`find(haystack)` observes the leftmost occurrence of `x` in THAT haystack (`Spec.leftmost`, see
`Props/C03`) - nothing of earlier operations enters; `needle()` observes `x`; `as_ref()`,
`into_owned()` and `clone()` observe nothing and change nothing for what follows. -/
theorem ref_finder_eqs (x : Array UInt8) (hay : Slice) (ops : List FinderOp) :
    refFinder x [] = [] ∧
    refFinder x (.find hay :: ops) = .idx (Spec.leftmost hay.toArray x) :: refFinder x ops ∧
    refFinder x (.needle :: ops) = .bytes x :: refFinder x ops ∧
    refFinder x (.asRef :: ops) = refFinder x ops ∧
    refFinder x (.intoOwned :: ops) = refFinder x ops ∧
    refFinder x (.clone :: ops) = refFinder x ops :=
  ⟨rfl, rfl, rfl, rfl, rfl, rfl⟩

/-- **What `refFinderRev x ops` is**: the same with the rightmost occurrence
(`Spec.rightmost`, see `Props/C04`). -/
theorem ref_finder_rev_eqs (x : Array UInt8) (hay : Slice) (ops : List FinderOp) :
    Bridge3.refFinderRev x [] = [] ∧
    Bridge3.refFinderRev x (.find hay :: ops) =
      .idx (Spec.rightmost hay.toArray x) :: Bridge3.refFinderRev x ops ∧
    Bridge3.refFinderRev x (.needle :: ops) = .bytes x :: Bridge3.refFinderRev x ops ∧
    Bridge3.refFinderRev x (.asRef :: ops) = Bridge3.refFinderRev x ops ∧
    Bridge3.refFinderRev x (.intoOwned :: ops) = Bridge3.refFinderRev x ops ∧
    Bridge3.refFinderRev x (.clone :: ops) = Bridge3.refFinderRev x ops :=
  ⟨rfl, rfl, rfl, rfl, rfl, rfl⟩

/-! ### `Finder` and `FinderRev` -/

/-- **A `Finder` is a pure function of its needle.** For every configuration, every
`FinderBuilder` finder (prefilter `None` / `Auto`, any ranker), every valid needle and EVERY
list of operations whose `find` haystacks are valid slices (`FinderOp.Ok`): building the finder
and running the operations returns normally and observes exactly `refFinder needle ops` - every
`find` is the leftmost occurrence in its own haystack whatever was searched before (including
haystacks that exhaust the prefilter), every `needle()` is the construction needle, and
`as_ref` / `clone` / `into_owned` are invisible from that point on. (The second conjunct is the
exact allocation count, `Props/C17`.) -/
theorem finder_run_all (cfg : Api.Cfg) (b : FinderBuilder) (rank : UInt8 → UInt8)
    (needle : Slice) (hn : needle.Valid) (ops : List FinderOp) (hops : ∀ op ∈ ops, op.Ok)
    (h : Heap) (c : Ctr) :
    ∃ f' h' c', (b.buildForwardWithRanker cfg rank needle >>= fun f => Finder.run cfg ops f h) c =
        .ok (refFinder needle.toArray ops, f', h') c' ∧
      h'.allocs = h.allocs + refAllocs needle.len .borrowed (ops.map FinderOp.own) :=
  Memmem.C16.finder_run_all cfg b rank needle hn ops hops h c

/-- **A `FinderRev` is a pure function of its needle**: `FinderRev::new(needle)` and any list
of operations (`find` = `rfind`) observes exactly `refFinderRev needle ops`. -/
theorem finder_rev_run_all (cfg : Api.Cfg) (needle : Slice) (hn : needle.Valid)
    (ops : List FinderOp) (hops : ∀ op ∈ ops, op.Ok) (h : Heap) (c : Ctr) :
    ∃ f' h' c', (FinderRev.new needle >>= fun f => FinderRev.run cfg ops f h) c =
        .ok (Bridge3.refFinderRev needle.toArray ops, f', h') c' ∧
      h'.allocs = h.allocs + refAllocs needle.len .borrowed (ops.map FinderOp.own) :=
  Bridge3.finderRev_run_all cfg needle hn ops hops h c

/-- **Two finders, two histories, one answer.** Let `f`, `f'` be ANY two forward finders for
the needle bytes of `n0` (`Finder.GoodFor n0`: what any construction followed by any operations
yields - built with any settings in any configuration, borrowed or owned, with the needle bytes
in any memory region, having searched anything before), and `ops`, `ops'` two operation lists
that are equal once every `as_ref` / `clone` / `into_owned` is removed (`isConv`). Then both runs
return normally with the SAME list of observations. -/
theorem finder (cfg cfg' : Api.Cfg) (n0 : Slice) (hn0 : n0.Valid) (ops ops' : List FinderOp)
    (hops : ∀ op ∈ ops, op.Ok) (hops' : ∀ op ∈ ops', op.Ok)
    (hsame : ops.filter (fun o => !o.isConv) = ops'.filter (fun o => !o.isConv))
    (f f' : Finder) (hg : f.GoodFor n0) (hg' : f'.GoodFor n0) (h h' : Heap) (c c' : Ctr) :
    ∃ outs f1 h1 c1 f1' h1' c1', Finder.run cfg ops f h c = .ok (outs, f1, h1) c1 ∧
      Finder.run cfg' ops' f' h' c' = .ok (outs, f1', h1') c1' :=
  Memmem.C16.finder cfg cfg' n0 hn0 ops ops' hops hops' hsame f f' hg hg' (fun _ => twoWayFwdOk)
    h h' c c'

/-- The same for any two reverse finders for the same needle bytes. -/
theorem finder_rev (cfg cfg' : Api.Cfg) (n0 : Slice) (hn0 : n0.Valid)
    (ops ops' : List FinderOp) (hops : ∀ op ∈ ops, op.Ok) (hops' : ∀ op ∈ ops', op.Ok)
    (hsame : ops.filter (fun o => !o.isConv) = ops'.filter (fun o => !o.isConv))
    (f f' : FinderRev) (hg : f.GoodFor n0) (hg' : f'.GoodFor n0) (h h' : Heap) (c c' : Ctr) :
    ∃ outs f1 h1 c1 f1' h1' c1', FinderRev.run cfg ops f h c = .ok (outs, f1, h1) c1 ∧
      FinderRev.run cfg' ops' f' h' c' = .ok (outs, f1', h1') c1' := by
  obtain ⟨f1, h1, c1, hr, _⟩ := FinderRev.run_ok cfg n0 hn0 ops hops f hg h c
  obtain ⟨f1', h1', c1', hr', _⟩ := FinderRev.run_ok cfg' n0 hn0 ops' hops' f' hg' h' c'
  refine ⟨_, f1, h1, c1, f1', h1', c1', hr, ?_⟩
  rw [hr', refFinderRev_filter _ ops, refFinderRev_filter _ ops', hsame]

/-! ### partially consumed iterators -/

/-- **A partially consumed `find_iter` and its `clone()` / `into_owned()`.** Let `it`, `it'` be
ANY two forward iterators over the same haystack for the same needle bytes at the SAME position
(`FindIter.GoodFor`; e.g. an iterator after some `next()` calls and its clone or owned form) -
whatever their prefilter states, ownership and configuration - and `ops`, `ops'` two lists of
`next` / `size_hint` / `clone` / `into_owned` that are equal once `clone` / `into_owned` are
removed. Then both runs return normally with the SAME observations: from that point on the
converted iterator behaves identically to the original. -/
theorem find_iter (cfg cfg' : Api.Cfg) (n0 hay : Slice) (hn0 : n0.Valid) (hh : hay.Valid)
    (ops ops' : List IterOp)
    (hsame : ops.filter (fun o => !o.isConv) = ops'.filter (fun o => !o.isConv))
    (it it' : FindIter) (hg : it.GoodFor n0 hay) (hg' : it'.GoodFor n0 hay)
    (hpos : it.pos = it'.pos) (h h' : Heap) (c c' : Ctr) :
    ∃ outs i1 h1 c1 i1' h1' c1', FindIter.run cfg ops it h c = .ok (outs, i1, h1) c1 ∧
      FindIter.run cfg' ops' it' h' c' = .ok (outs, i1', h1') c1' :=
  Memmem.C16.find_iter cfg cfg' n0 hay hn0 hh ops ops' hsame it it' hg hg' hpos
    (fun _ => twoWayFwdOk) h h' c c'

/-- **The same for a partially consumed `rfind_iter`** (its state is `pos : Option<usize>`). -/
theorem rfind_iter (cfg cfg' : Api.Cfg) (n0 hay : Slice) (hn0 : n0.Valid) (hh : hay.Valid)
    (ops ops' : List IterOp)
    (hsame : ops.filter (fun o => !o.isConv) = ops'.filter (fun o => !o.isConv))
    (it it' : FindRevIter) (hg : it.GoodFor n0 hay) (hg' : it'.GoodFor n0 hay)
    (hpos : it.pos = it'.pos) (h h' : Heap) (c c' : Ctr) :
    ∃ outs i1 h1 c1 i1' h1' c1', FindRevIter.run cfg ops it h c = .ok (outs, i1, h1) c1 ∧
      FindRevIter.run cfg' ops' it' h' c' = .ok (outs, i1', h1') c1' :=
  Memmem.C16.rfind_iter cfg cfg' n0 hay hn0 hh ops ops' hsame it it' hg hg' hpos
    (fun _ => twoWayRevOk) h h' c c'

/-! ### the hypotheses are satisfiable -/

/-- a valid needle, a valid haystack, an operation list all of whose `find` haystacks are valid,
and a second list that differs from it only by conversions -/
example : (⟨⟨1, 1048577, #[0, 97, 98, 0]⟩, 1, 2⟩ : Slice).Valid ∧
    (∀ op ∈ [FinderOp.find ⟨⟨0, 4099, #[120, 97, 98, 97, 98, 120]⟩, 1, 4⟩, .intoOwned,
        .find ⟨⟨0, 4099, #[120, 97, 98, 97, 98, 120]⟩, 1, 4⟩, .clone, .needle], op.Ok) ∧
    [FinderOp.asRef, .needle, .clone].filter (fun o => !o.isConv) =
      [FinderOp.needle, .intoOwned].filter (fun o => !o.isConv) := by
  refine ⟨by simp [Slice.Valid], ?_, by simp [FinderOp.isConv]⟩
  intro op hop
  simp at hop
  rcases hop with rfl | rfl | rfl | rfl | rfl <;> simp [FinderOp.Ok, Slice.Valid]

/-- a good finder exists (hypothesis of `finder`): the empty-needle finder, here in its owned
form with the (zero) needle bytes in another region than the construction needle -/
example : Finder.GoodFor (Slice.ofMem ⟨1, 64, #[]⟩)
    { needle := { own := .owned, bytes := Slice.ofMem ⟨1, 16777216, #[]⟩ },
      searcher := { kind := .empty, rabinkarp := RabinKarp.Finder.spec [] } } :=
  ⟨⟨by simp [Slice.Valid, Slice.ofMem], rfl⟩, rfl, rfl⟩

/-- two good iterators at the same position with DIFFERENT prefilter states and ownership
(hypotheses of `find_iter`) -/
example :
    let hay := Slice.ofMem ⟨0, 4096, Array.replicate 5 97⟩
    let n0 := Slice.ofMem ⟨1, 64, #[]⟩
    let s : Searcher := { kind := .empty, rabinkarp := RabinKarp.Finder.spec [] }
    let it : FindIter := { haystack := hay, prestate := PrefilterState.new,
                           finder := { needle := CowBytes.new n0, searcher := s }, pos := 3 }
    let it' : FindIter := { haystack := hay, prestate := ⟨0, 0⟩,
                            finder := { needle := { own := .owned, bytes := n0 }, searcher := s },
                            pos := 3 }
    it.GoodFor n0 hay ∧ it'.GoodFor n0 hay ∧ it.pos = it'.pos :=
  ⟨⟨rfl, ⟨by simp [Slice.Valid, Slice.ofMem, CowBytes.new], rfl⟩, rfl, rfl⟩,
   ⟨rfl, ⟨by simp [Slice.Valid, Slice.ofMem], rfl⟩, rfl, rfl⟩, rfl⟩

end Memchr.Props.C16

#print axioms Memchr.Props.C16.ref_finder_eqs
#print axioms Memchr.Props.C16.ref_finder_rev_eqs
#print axioms Memchr.Props.C16.finder_run_all
#print axioms Memchr.Props.C16.finder_rev_run_all
#print axioms Memchr.Props.C16.finder
#print axioms Memchr.Props.C16.finder_rev
#print axioms Memchr.Props.C16.find_iter
#print axioms Memchr.Props.C16.rfind_iter
