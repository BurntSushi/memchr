-- Root of the MemchrModel library: importing every property file pulls in every model and proof module,
-- except the one named at the end, which no property file needs.
import MemchrModel.Props.C01
import MemchrModel.Props.C02
import MemchrModel.Props.C03
import MemchrModel.Props.C04
import MemchrModel.Props.C05
import MemchrModel.Props.C06
import MemchrModel.Props.C07
import MemchrModel.Props.C08
import MemchrModel.Props.C09
import MemchrModel.Props.C10
import MemchrModel.Props.C11
import MemchrModel.Props.C12
import MemchrModel.Props.C13
import MemchrModel.Props.C14
import MemchrModel.Props.C15
import MemchrModel.Props.C16
import MemchrModel.Props.C17
import MemchrModel.Props.C18
import MemchrModel.Props.C19
import MemchrModel.Proofs.MemmemOps
